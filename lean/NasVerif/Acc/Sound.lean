import NasVerif.Acc.Defs
import NasVerif.Proofs.Bits
/-! # Soundness of the symbolic bit executor `sym` w.r.t. the concrete semantics `eval` -/
namespace NasVerif.Acc

theorem add_testBit_disjoint (w a b : Nat) (h : ∀ j, ¬ (a.testBit j = true ∧ b.testBit j = true)) (j : Nat) :
    ((a + b) % 2^w).testBit j = (decide (j < w) && (a.testBit j || b.testBit j)) := by
  have hz : BitVec.ofNat w a &&& BitVec.ofNat w b = 0#w := by
    apply BitVec.eq_of_getLsbD_eq
    intro i hi
    have := h i
    simp only [BitVec.getLsbD_and, BitVec.getLsbD_ofNat]
    cases ha : a.testBit i <;> simp_all
  rw [Nat.testBit_mod_two_pow, ← BitVec.getLsbD_ofNat, BitVec.ofNat_add, BitVec.add_eq_or_of_and_eq_zero _ _ hz,
    BitVec.getLsbD_or, BitVec.getLsbD_ofNat, BitVec.getLsbD_ofNat, Bool.and_or_distrib_left]

theorem bitAt_nil (env : Env) (j : Nat) : bitAt env [] j = false := rfl
theorem bitAt_cons_zero (env : Env) (b : Bit) (bs : SV) : bitAt env (b :: bs) 0 = b.ev env := rfl
theorem bitAt_cons_succ (env : Env) (b : Bit) (bs : SV) (j : Nat) : bitAt env (b :: bs) (j+1) = bitAt env bs j := rfl
theorem bitAt_head (env : Env) (ys : SV) : (ys.headD .zero).ev env = bitAt env ys 0 := by cases ys <;> rfl
theorem bitAt_tail (env : Env) (ys : SV) (j : Nat) : bitAt env ys.tail j = bitAt env ys (j+1) := by cases ys <;> rfl

theorem bitAt_map_range (env : Env) (g : Nat → Bit) (n j : Nat) :
    bitAt env ((List.range n).map g) j = (decide (j < n) && (g j).ev env) := by
  by_cases h : j < n <;> simp [bitAt, List.getD_eq_getElem?_getD, h, Bit.ev]

theorem bitAt_take (env : Env) (x : SV) (w j : Nat) : bitAt env (x.take w) j = (decide (j < w) && bitAt env x j) := by
  by_cases h : j < w
  · rw [bitAt, take_getD _ _ _ _ h, decide_eq_true h, Bool.true_and, bitAt]
  · rw [bitAt, getD_of_le _ _ _ (by rw [List.length_take]; omega), decide_eq_false h, Bool.false_and]; rfl

theorem bitAt_drop (env : Env) (x : SV) (k j : Nat) : bitAt env (x.drop k) j = bitAt env x (k + j) := by
  rw [bitAt, drop_getD]; rfl

theorem bitAt_shift (env : Env) (x : SV) (k j : Nat) :
    bitAt env (List.replicate k Bit.zero ++ x) j = (decide (k ≤ j) && bitAt env x (j - k)) := by
  have hk : (List.replicate k Bit.zero).length = k := List.length_replicate
  by_cases h : k ≤ j
  · rw [bitAt, getD_append_right _ _ _ (by omega), hk, decide_eq_true h, Bool.true_and, bitAt]
  · rw [bitAt, getD_append_left _ _ _ (by omega), getD_replicate, decide_eq_false h, Bool.false_and]; rfl

/-! ## position-wise combination: whatever relation `f` guarantees on one bit holds at every position -/

theorem mapR_rel (env : Env) (f : Bit → Bit → Option Bit) (R : Bool → Bool → Bool → Prop) (h0 : R false false false)
    (hf : ∀ p q r, f p q = some r → R (p.ev env) (q.ev env) (r.ev env)) :
    ∀ (y z : SV), mapR f y = some z → ∀ j, R false (bitAt env y j) (bitAt env z j) := by
  intro y
  induction y with
  | nil => intro z h j; cases h; exact h0
  | cons b ys ih =>
    intro z h j
    simp only [mapR] at h
    split at h <;> cases h
    next hb hs => cases j with
      | zero => exact hf _ _ _ hb
      | succ j => exact ih _ hs j

theorem zipD_rel (env : Env) (f : Bit → Bit → Option Bit) (R : Bool → Bool → Bool → Prop) (h0 : R false false false)
    (hf : ∀ p q r, f p q = some r → R (p.ev env) (q.ev env) (r.ev env)) :
    ∀ (x y z : SV), zipD f x y = some z → ∀ j, R (bitAt env x j) (bitAt env y j) (bitAt env z j) := by
  intro x
  induction x with
  | nil => intro y z h j; exact mapR_rel env f R h0 hf y z h j
  | cons a xs ih =>
    intro y z h j
    simp only [zipD] at h
    split at h <;> cases h
    next ha hs => cases j with
      | zero => have := hf _ _ _ ha; rw [bitAt_head] at this; exact this
      | succ j => have := ih _ _ hs j; rw [bitAt_tail] at this; exact this

theorem bitTables_sound (env : Env) :
    (∀ p q r, andBit p q = some r → r.ev env = (p.ev env && q.ev env)) ∧
    (∀ p q r, orBit p q = some r → r.ev env = (p.ev env || q.ev env)) ∧
    (∀ p q r, xorBit p q = some r → r.ev env = (p.ev env ^^ q.ev env)) ∧
    (∀ p q r, addBit p q = some r → r.ev env = (p.ev env || q.ev env) ∧ ¬ (p.ev env = true ∧ q.ev env = true)) := by
  unfold andBit orBit xorBit addBit
  refine ⟨?_, ?_, ?_, ?_⟩ <;> intro p q r h <;> (repeat' split at h) <;> cases h <;> simp_all [Bit.ev]

theorem constVal_sound (env : Env) : ∀ (x : SV) (v : Nat), constVal x = some v → ∀ j, bitAt env x j = v.testBit j := by
  intro x
  induction x with
  | nil => intro v h j; cases h; simp [bitAt_nil]
  | cons b r ih =>
    intro v h j
    cases b <;> simp only [constVal, Option.map_eq_some_iff, reduceCtorEq] at h
    all_goals
      obtain ⟨u, hu, rfl⟩ := h
      cases j with
      | zero => simp [bitAt_cons_zero, Bit.ev]
      | succ j => rw [bitAt_cons_succ, ih u hu j, Nat.testBit_succ]; congr 1; omega

theorem natBits_sound (env : Env) : ∀ (f v j : Nat), bitAt env (natBits f v) j = (decide (j < f) && v.testBit j) := by
  intro f
  induction f with
  | zero => intro v j; simp [natBits, bitAt_nil]
  | succ f ih =>
    intro v j
    cases j with
    | zero => by_cases h : v % 2 = 1 <;> simp [natBits, bitAt_cons_zero, h, Bit.ev]
    | succ j => simp [natBits, bitAt_cons_succ, ih, Nat.testBit_succ]

theorem natBits_mod (env : Env) (w n j : Nat) : bitAt env (natBits w (n % 2^w)) j = (n % 2^w).testBit j := by
  rw [natBits_sound, Bits.decide_and_testBit (Nat.mod_lt _ (Nat.two_pow_pos w))]

/-- `σ` describes the current concrete octets `cur` in terms of the base environment -/
def Agree (env : Env) (σ : Nat → SV) (cur : Nat → Nat) : Prop := ∀ i j, (cur i).testBit j = bitAt env (σ i) j

theorem sym_sound (env : Env) (aw : Nat) (harg : env.arg < 2^aw) (σ : Nat → SV) (cur : Nat → Nat)
    (hag : Agree env σ cur) :
    ∀ (e : E) (bs : SV), sym σ aw e = some bs → ∀ j, (eval ⟨cur, env.arg⟩ e).testBit j = bitAt env bs j := by
  have hconst : ∀ {e x v}, (∀ j, (eval ⟨cur, env.arg⟩ e).testBit j = bitAt env x j) → constVal x = some v →
      eval ⟨cur, env.arg⟩ e = v :=
    fun ih hv => Nat.eq_of_testBit_eq fun i => by rw [ih i, constVal_sound env _ _ hv i]
  obtain ⟨hand, hor, hxor, hadd⟩ := bitTables_sound env
  intro e
  induction e <;> intro bs h j <;>
    simp only [sym, Option.bind_eq_bind, Option.bind_eq_some_iff, Option.ite_none_right_eq_some, Option.some.injEq] at h
  case oct i => rw [← h]; exact hag i j
  case arg => rw [← h]; simp only [eval, argBits, bitAt_map_range, Bit.ev, Bits.decide_and_testBit harg]
  case const v =>
    obtain ⟨hv, rfl⟩ := h
    simp only [eval, natBits_sound, Bits.decide_and_testBit hv]
  case and a b iha ihb =>
    obtain ⟨x, hx, y, hy, h⟩ := h
    rw [eval, Nat.testBit_and, iha x hx, ihb y hy, zipD_rel env andBit (fun p q r => r = (p && q)) rfl hand x y bs h j]
  case or a b iha ihb =>
    obtain ⟨x, hx, y, hy, h⟩ := h
    rw [eval, Nat.testBit_or, iha x hx, ihb y hy, zipD_rel env orBit (fun p q r => r = (p || q)) rfl hor x y bs h j]
  case xor a b iha ihb =>
    obtain ⟨x, hx, y, hy, h⟩ := h
    rw [eval, Nat.testBit_xor, iha x hx, ihb y hy, zipD_rel env xorBit (fun p q r => r = (p ^^ q)) rfl hxor x y bs h j]
  case add w a b iha ihb =>
    obtain ⟨x, hx, y, hy, h⟩ := h
    split at h
    · next u v hu hv =>
      split at h <;> cases h
      rw [eval, hconst (iha x hx) hu, hconst (ihb y hy) hv, natBits_mod]
    · obtain ⟨z, hz, rfl⟩ := Option.map_eq_some_iff.mp h
      -- `addBit` succeeds only where at most one operand bit can be set, so the sum is the bitwise or
      have hz := zipD_rel env addBit (fun p q r => r = (p || q) ∧ ¬ (p = true ∧ q = true)) (by simp)
        hadd x y z hz
      simp only [← iha x hx, ← ihb y hy] at hz
      rw [eval, add_testBit_disjoint w _ _ (fun i => (hz i).2) j, bitAt_take, (hz j).1]
  case sub w a b iha ihb =>
    obtain ⟨x, hx, y, hy, h⟩ := h
    split at h
    · next u v hu hv =>
      split at h <;> cases h
      rw [eval, hconst (iha x hx) hu, hconst (ihb y hy) hv, natBits_mod]
    · cases h
  case shl w a n iha ihn =>
    obtain ⟨x, hx, y, hy, h⟩ := h
    split at h <;> cases h
    next k hk =>
    rw [eval, hconst (ihn y hy) hk, Nat.testBit_mod_two_pow, Nat.testBit_shiftLeft, bitAt_take, bitAt_shift, iha x hx]
  case shr a n iha ihn =>
    obtain ⟨x, hx, y, hy, h⟩ := h
    split at h <;> cases h
    next k hk =>
    rw [eval, hconst (ihn y hy) hk, Nat.testBit_shiftRight, bitAt_drop, iha x hx]
  case conv w a iha =>
    obtain ⟨x, hx, rfl⟩ := h
    rw [eval, Nat.testBit_mod_two_pow, bitAt_take, iha x hx]

end NasVerif.Acc

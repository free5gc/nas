import NasVerif.Prelude.Basic
/-!
# Octet-range accessors (`copy(r[:], a.Octet[lo:hi])`, `copy(a.Buffer[lo:], v)`, …)

Contents are `List UInt8` (the `n` octets of an array, or the whole `Buffer`). Go's `copy` moves
`min(len dst, len src)` octets and never changes a length.
-/
namespace NasVerif.Acc

inductive RKind | range | tail
deriving DecidableEq, Repr, Inhabited

structure RangePair where
  type  : String
  field : String
  r0 : Nat
  r1 : Nat
  sBit : Nat
  len : Nat
  inf : Bool
  kind : RKind
  isBuf : Bool
  lo : Nat
  hi : Nat
  size : Nat      -- array size (0 for buffers)
deriving Repr, Inhabited

/-- the copied range is exactly the documented rows: whole octets from bit 8 of row r0 to bit 1 of row r1 -/
def rangeOK (p : RangePair) : Bool :=
  match p.kind with
  | .range => !p.inf && decide (p.sBit = 8 ∧ p.r0 = p.lo ∧ p.r1 + 1 = p.hi ∧ p.len = 8 * (p.hi - p.lo) ∧ p.lo < p.hi) &&
      (p.isBuf || decide (p.hi ≤ p.size))
  | .tail => p.inf && p.isBuf && decide (p.r0 = p.lo)   -- `INF` fields: whole octets from row r0 to the end (the annotation's sBit is not meaningful for them)

/-- `copy(r[:], c[lo:hi])` for an `[hi-lo]uint8` result: slicing panics when `hi` exceeds the length
(buffers are modelled with capacity = length) -/
def getRange (c : Bytes) (lo hi : Nat) : Outcome Bytes :=
  if hi ≤ c.length then .ok ((c.drop lo).take (hi - lo)) else .panic

/-- `copy(c[lo:hi], v[:])` with `v : [hi-lo]uint8` -/
def setRange (c : Bytes) (lo hi : Nat) (v : Bytes) : Outcome Bytes :=
  if hi ≤ c.length then .ok (c.take lo ++ v.take (hi - lo) ++ c.drop hi) else .panic

/-- `r = make([]uint8, len(c)-lo); copy(r, c[lo:])` -/
def getTail (c : Bytes) (lo : Nat) : Outcome Bytes :=
  if lo ≤ c.length then .ok (c.drop lo) else .panic

/-- `copy(c[lo:], v)` -/
def setTail (c : Bytes) (lo : Nat) (v : Bytes) : Outcome Bytes :=
  if lo ≤ c.length then
    let n := min v.length (c.length - lo)
    .ok (c.take lo ++ v.take n ++ c.drop (lo + n))
  else .panic

theorem setRange_ok (c v : Bytes) (lo hi : Nat) (hv : v.length = hi - lo) (hc : hi ≤ c.length) :
    setRange c lo hi v = .ok (c.take lo ++ (v ++ c.drop hi)) := by
  simp [setRange, hc, List.take_of_length_le (by omega : v.length ≤ hi - lo)]

theorem splice_length (c v : Bytes) (lo hi : Nat) (h : lo ≤ hi) (hv : v.length = hi - lo) (hc : hi ≤ c.length) :
    (c.take lo ++ (v ++ c.drop hi)).length = c.length := by simp; omega

theorem getRange_splice (c v : Bytes) (lo hi : Nat) (h : lo ≤ hi) (hv : v.length = hi - lo) (hc : hi ≤ c.length) :
    getRange (c.take lo ++ (v ++ c.drop hi)) lo hi = .ok v := by
  rw [getRange, splice_length c v lo hi h hv hc, if_pos hc, List.drop_left' (by simp; omega), List.take_left' hv]

theorem splice_frame (c v : Bytes) (lo hi : Nat) (h : lo ≤ hi) (hv : v.length = hi - lo) (hc : hi ≤ c.length)
    (i : Nat) (hi' : i < lo ∨ hi ≤ i) : (c.take lo ++ (v ++ c.drop hi))[i]? = c[i]? := by
  have h1 : (c.take lo).length = lo := by simp; omega
  rcases hi' with a | a
  · rw [List.getElem?_append_left (by omega), List.getElem?_take, if_pos a]
  · rw [List.getElem?_append_right (by omega), List.getElem?_append_right (by omega), List.getElem?_drop, h1, hv]
    congr 1; omega

/-- tail of a buffer: `copy(c[lo:], v)` with a value at least as long as the tail writes the whole tail -/
theorem getTail_setTail (c v : Bytes) (lo : Nat) (hc : lo ≤ c.length) (hv : c.length - lo ≤ v.length) :
    ∃ c', setTail c lo v = .ok c' ∧ c'.length = c.length ∧ getTail c' lo = .ok (v.take (c.length - lo)) := by
  have hn : min v.length (c.length - lo) = c.length - lo := by omega
  have e : lo + (c.length - lo) = c.length := by omega
  have hs : setTail c lo v = .ok (c.take lo ++ v.take (c.length - lo)) := by
    simp only [setTail, hc, if_true, hn, e, List.drop_length, List.append_nil]
  have hl : (c.take lo ++ v.take (c.length - lo)).length = c.length := by simp; omega
  refine ⟨_, hs, hl, ?_⟩
  rw [getTail, hl, if_pos hc, List.drop_left' (by simp; omega)]

theorem setTail_frame (c v : Bytes) (lo : Nat) (c' : Bytes) (hs : setTail c lo v = .ok c') (i : Nat) (hi : i < lo) :
    c'[i]? = c[i]? := by
  unfold setTail at hs
  split at hs
  · simp only [Outcome.ok.injEq] at hs; subst hs
    rw [List.append_assoc, List.getElem?_append_left (by simp; omega), List.getElem?_take, if_pos hi]
  · simp at hs

end NasVerif.Acc

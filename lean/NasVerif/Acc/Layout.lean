import NasVerif.Acc.Sound
/-!
# Documented layout of a field (`Row, sBit, len = [r0, r1], sBit, len`), the per-pair checker, and what a passed
check means.

The field is the big-endian bit string of `len` bits that starts at bit `sBit` (1 = LSB … 8 = MSB) of octet `r0`
and continues from bit 8 of the following octets.
-/
namespace NasVerif.Acc

/-- position (octet, bit 0..7) of bit `p` (0 = least significant) of the field -/
def posOf (r0 sBit len p : Nat) : Nat × Nat :=
  let off := (8 - sBit) + (len - 1 - p)
  (r0 + off / 8, 7 - off % 8)

def expectedGet (r0 sBit len : Nat) : SV :=
  (List.range len).map (fun p => Bit.o (posOf r0 sBit len p).1 (posOf r0 sBit len p).2)

def findPos (r0 sBit len i j : Nat) : Option Nat :=
  (List.range len).find? (fun p => posOf r0 sBit len p == (i, j))

def expectedSet (r0 sBit len i : Nat) : SV :=
  (List.range 8).map (fun j => match findPos r0 sBit len i j with | some p => Bit.a p | none => Bit.o i j)

abbrev Store := List (Nat × SV)     -- symbolic contents of the octets assigned so far

/-- `s.get i` on a `Store` is this lookup, not `List.get`: the last assignment to octet `i`, or its prior contents -/
def Store.get (s : Store) (i : Nat) : SV :=
  match s.lookup i with
  | some bs => bs
  | none => octBits i

structure Ann where
  r0 : Nat
  r1 : Nat
  sBit : Nat
  len : Nat
deriving DecidableEq, Repr, Inhabited

structure Pair where
  type   : String
  field  : String
  ann    : Ann
  retW   : Nat                    -- width of the getter's result / setter's parameter
  get    : E
  set    : List (Nat × E)         -- `a.Octet[k] = e`, in source order
deriving Repr, Inhabited

/-- equal as bit strings with implicit trailing zeros -/
def trimEq (a b : SV) : Bool :=
  (List.range (max a.length b.length)).all (fun j => a.getD j .zero == b.getD j .zero)

/-- argument width 0: a getter has no argument -/
def getOK (p : Pair) : Bool :=
  match sym octBits 0 p.get with
  | some bs => trimEq bs (expectedGet p.ann.r0 p.ann.sBit p.ann.len)
  | none => false

def symSet (aw : Nat) : List (Nat × E) → Store → Option Store
  | [], s => some s
  | (k, e) :: r, s =>
    match sym s.get aw e with
    | some bs => symSet aw r ((k, bs) :: s)
    | none => none

def annOK (a : Ann) (w : Nat) : Bool :=
  decide (1 ≤ a.sBit ∧ a.sBit ≤ 8 ∧ 1 ≤ a.len ∧ a.len ≤ w ∧ a.r0 ≤ a.r1 ∧
    a.r1 = a.r0 + ((8 - a.sBit) + (a.len - 1)) / 8)

def setOK (p : Pair) : Bool :=
  match symSet p.retW p.set [] with
  | some s =>
    (List.range (p.ann.r1 - p.ann.r0 + 1)).all (fun d =>
      trimEq (s.get (p.ann.r0 + d)) (expectedSet p.ann.r0 p.ann.sBit p.ann.len (p.ann.r0 + d))) &&
    p.set.all (fun (k, _) => decide (p.ann.r0 ≤ k ∧ k ≤ p.ann.r1))
  | none => false

def pairOK (p : Pair) : Bool := annOK p.ann p.retW && getOK p && setOK p

def upd (f : Nat → Nat) (k v : Nat) : Nat → Nat := fun i => if i = k then v else f i

def execSet (arg : Nat) : List (Nat × E) → (Nat → Nat) → (Nat → Nat)
  | [], cur => cur
  | (k, e) :: r, cur => execSet arg r (upd cur k (eval ⟨cur, arg⟩ e))

theorem bitAt_of_trimEq (env : Env) (a b : SV) (h : trimEq a b = true) (j : Nat) : bitAt env a j = bitAt env b j := by
  simp only [trimEq, List.all_eq_true, List.mem_range, beq_iff_eq] at h
  by_cases hj : j < max a.length b.length
  · unfold bitAt; rw [h j hj]
  · rw [bitAt, bitAt, getD_of_le _ _ _ (by omega), getD_of_le _ _ _ (by omega)]

theorem agree_octBits (env : Env) (h : ∀ i, env.oct i < 256) : Agree env octBits env.oct := fun i j => by
  simp only [octBits, bitAt_map_range, Bit.ev, Bits.decide_and_testBit (w := 8) (h i)]

theorem bitAt_expectedSet (env : Env) (r0 sBit len i j : Nat) :
    bitAt env (expectedSet r0 sBit len i) j =
      (decide (j < 8) && (match findPos r0 sBit len i j with
        | some p => env.arg.testBit p
        | none => (env.oct i).testBit j)) := by
  simp only [expectedSet, bitAt_map_range]
  cases findPos r0 sBit len i j <;> simp [Bit.ev]

theorem pairOK_iff (p : Pair) : pairOK p = true ↔ annOK p.ann p.retW = true ∧ getOK p = true ∧ setOK p = true := by
  simp [pairOK, and_assoc]

theorem get_spec (p : Pair) (h : getOK p = true) (octs : Nat → Nat) (ho : ∀ i, octs i < 256) (j : Nat) :
    (eval ⟨octs, 0⟩ p.get).testBit j =
      (decide (j < p.ann.len) && (octs (posOf p.ann.r0 p.ann.sBit p.ann.len j).1).testBit (posOf p.ann.r0 p.ann.sBit p.ann.len j).2) := by
  unfold getOK at h
  split at h
  · next bs hs =>
    rw [sym_sound ⟨octs, 0⟩ 0 (by simp) octBits octs (agree_octBits ⟨octs, 0⟩ ho) p.get bs hs j,
      bitAt_of_trimEq _ _ _ h, expectedGet, bitAt_map_range]
    rfl
  · cases h

theorem agree_cons (env : Env) (s : Store) (cur : Nat → Nat) (k : Nat) (bs : SV) (v : Nat)
    (hag : Agree env s.get cur) (hv : ∀ j, v.testBit j = bitAt env bs j) :
    Agree env (Store.get ((k, bs) :: s)) (upd cur k v) := by
  intro i j
  by_cases h : i = k
  · simp [Store.get, upd, List.lookup, h, hv]
  · simpa [Store.get, upd, List.lookup, h, beq_false_of_ne h] using hag i j

theorem symSet_sound (env : Env) (aw : Nat) (harg : env.arg < 2^aw) :
    ∀ (l : List (Nat × E)) (s sf : Store) (cur : Nat → Nat), Agree env s.get cur → symSet aw l s = some sf →
      Agree env sf.get (execSet env.arg l cur) := by
  intro l
  induction l with
  | nil => intro s sf cur hag h; cases h; exact hag
  | cons ke r ih =>
    intro s sf cur hag h
    simp only [symSet] at h
    split at h
    · next bs hs => exact ih _ sf _ (agree_cons env s cur _ bs _ hag (sym_sound env aw harg s.get cur hag _ bs hs)) h
    · cases h

theorem execSet_other (arg : Nat) : ∀ (l : List (Nat × E)) (cur : Nat → Nat) (i : Nat),
    (∀ ke ∈ l, ke.1 ≠ i) → execSet arg l cur i = cur i := by
  intro l
  induction l with
  | nil => intro cur i _; rfl
  | cons ke r ih =>
    intro cur i h
    rw [execSet, ih _ i (fun x hx => h x (List.mem_cons_of_mem _ hx)), upd, if_neg (h ke List.mem_cons_self).symm]

/-- inside the field's rows every bit (also above bit 7) is the expected one, outside them the octet is untouched -/
theorem setOK_exec (p : Pair) (h : setOK p = true) (octs : Nat → Nat) (ho : ∀ i, octs i < 256)
    (v : Nat) (hv : v < 2^p.retW) (i : Nat) :
    (p.ann.r0 ≤ i ∧ i ≤ p.ann.r1 →
      ∀ j, (execSet v p.set octs i).testBit j = bitAt ⟨octs, v⟩ (expectedSet p.ann.r0 p.ann.sBit p.ann.len i) j) ∧
    (¬ (p.ann.r0 ≤ i ∧ i ≤ p.ann.r1) → execSet v p.set octs i = octs i) := by
  unfold setOK at h
  split at h
  · next sf hs =>
    simp only [Bool.and_eq_true, List.all_eq_true, List.mem_range, decide_eq_true_eq] at h
    obtain ⟨hrows, hkeys⟩ := h
    refine ⟨fun hin j => ?_, fun hout => ?_⟩
    · have hd := hrows (i - p.ann.r0) (by omega)
      rw [show p.ann.r0 + (i - p.ann.r0) = i by omega] at hd
      rw [symSet_sound ⟨octs, v⟩ p.retW hv p.set [] sf octs (agree_octBits ⟨octs, v⟩ ho) hs i j, bitAt_of_trimEq _ _ _ hd]
    · exact execSet_other _ _ _ _ fun ke hke hc => hout (hc ▸ hkeys ke hke)
  · cases h

theorem set_spec (p : Pair) (h : setOK p = true) (octs : Nat → Nat) (ho : ∀ i, octs i < 256)
    (v : Nat) (hv : v < 2^p.retW) (i j : Nat) (hj : j < 8) :
    (execSet v p.set octs i).testBit j =
      (match findPos p.ann.r0 p.ann.sBit p.ann.len i j with
       | some q => if p.ann.r0 ≤ i ∧ i ≤ p.ann.r1 then v.testBit q else (octs i).testBit j
       | none => (octs i).testBit j) := by
  obtain ⟨inside, outside⟩ := setOK_exec p h octs ho v hv i
  by_cases hin : p.ann.r0 ≤ i ∧ i ≤ p.ann.r1
  · rw [inside hin j, bitAt_expectedSet]; simp only [hj, decide_true, Bool.true_and, hin, and_self, if_true]
  · rw [outside hin]; cases findPos p.ann.r0 p.ann.sBit p.ann.len i j <;> simp [hin]

theorem execSet_lt (p : Pair) (h : setOK p = true) (octs : Nat → Nat) (ho : ∀ i, octs i < 256)
    (v : Nat) (hv : v < 2^p.retW) (i : Nat) : execSet v p.set octs i < 256 := by
  obtain ⟨inside, outside⟩ := setOK_exec p h octs ho v hv i
  by_cases hin : p.ann.r0 ≤ i ∧ i ≤ p.ann.r1
  · apply Nat.lt_pow_two_of_testBit (n := 8)
    intro j hj
    rw [inside hin j, bitAt_expectedSet, decide_eq_false (by omega), Bool.false_and]
  · rw [outside hin]; exact ho i

theorem posOf_inj (r0 sBit len a b : Nat) (hs : 1 ≤ sBit ∧ sBit ≤ 8) (ha : a < len) (hb : b < len)
    (h : posOf r0 sBit len a = posOf r0 sBit len b) : a = b := by
  simp only [posOf, Prod.mk.injEq] at h
  omega

theorem findPos_posOf (r0 sBit len q : Nat) (hs : 1 ≤ sBit ∧ sBit ≤ 8) (hq : q < len) :
    findPos r0 sBit len (posOf r0 sBit len q).1 (posOf r0 sBit len q).2 = some q := by
  rw [findPos, List.find?_range_eq_some]
  refine ⟨by simp, by simpa using hq, fun j hj => ?_⟩
  simpa using fun hc => Nat.ne_of_lt hj (posOf_inj r0 sBit len j q hs (by omega) hq hc)

theorem findPos_none (r0 sBit len i j : Nat) (h : ∀ q, q < len → posOf r0 sBit len q ≠ (i, j)) :
    findPos r0 sBit len i j = none := by
  simpa [findPos] using h

theorem annOK_iff (a : Ann) (w : Nat) : annOK a w = true ↔ 1 ≤ a.sBit ∧ a.sBit ≤ 8 ∧ 1 ≤ a.len ∧ a.len ≤ w ∧ a.r0 ≤ a.r1 ∧
    a.r1 = a.r0 + ((8 - a.sBit) + (a.len - 1)) / 8 := by simp [annOK]

theorem posOf_range (a : Ann) (w : Nat) (ha : annOK a w = true) (q : Nat) (hq : q < a.len) :
    a.r0 ≤ (posOf a.r0 a.sBit a.len q).1 ∧ (posOf a.r0 a.sBit a.len q).1 ≤ a.r1 ∧ (posOf a.r0 a.sBit a.len q).2 < 8 := by
  rw [annOK_iff] at ha
  simp only [posOf]
  omega

theorem set_get (p : Pair) (h : pairOK p = true) (octs : Nat → Nat) (ho : ∀ i, octs i < 256)
    (v : Nat) (hv : v < 2^p.retW) :
    eval ⟨execSet v p.set octs, 0⟩ p.get = v % 2^p.ann.len := by
  obtain ⟨hann, hget, hset⟩ := (pairOK_iff p).mp h
  apply Nat.eq_of_testBit_eq
  intro j
  rw [get_spec p hget _ (execSet_lt p hset octs ho v hv) j, Nat.testBit_mod_two_pow]
  by_cases hj : j < p.ann.len
  · obtain ⟨h1, h2, h3⟩ := posOf_range p.ann p.retW hann j hj
    rw [set_spec p hset octs ho v hv _ _ h3, findPos_posOf _ _ _ _ (by rw [annOK_iff] at hann; omega) hj]
    simp [hj, h1, h2]
  · simp [hj]

theorem set_frame (p : Pair) (h : pairOK p = true) (octs : Nat → Nat) (ho : ∀ i, octs i < 256)
    (v : Nat) (hv : v < 2^p.retW) (i j : Nat) (hj : j < 8)
    (hout : ∀ q, q < p.ann.len → posOf p.ann.r0 p.ann.sBit p.ann.len q ≠ (i, j)) :
    (execSet v p.set octs i).testBit j = (octs i).testBit j := by
  obtain ⟨-, -, hset⟩ := (pairOK_iff p).mp h
  rw [set_spec p hset octs ho v hv i j hj, findPos_none _ _ _ _ _ hout]

end NasVerif.Acc

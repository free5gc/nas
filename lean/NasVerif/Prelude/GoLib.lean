import NasVerif.Prelude.Basic
/-!
# Go-semantics prelude, part 2: checked indexing/slicing and the few library functions the helpers use

Go strings are byte sequences: `len(s)` counts bytes and `s[i]` is a byte, so text is `Bytes` here too.
Modelled, not verified (trusted base). No op of the correspondence run calls them on their own: they are compared with the
Go standard library only through the helpers of `Model/Convert.lean` that use them, by the `conv` ops:
`encoding/hex` EncodeToString / DecodeString, `math/bits` RotateLeft8(·, 4), `strings` Index(·, one byte) / Join,
`fmt.Sprintf` "%x" / "%d" on a `uint8`, `strconv.Atoi` on a one-byte string, `strconv.FormatUint(·, 10)`.
-/
namespace NasVerif

/-- `bs[i]`: panics when `i` is out of range -/
def idx (bs : Bytes) (i : Nat) : Outcome UInt8 :=
  if i < bs.length then .ok (bs.getD i 0) else .panic

/-- `bs[lo:hi]` (for strings and for slices whose capacity equals their length): panics unless `lo ≤ hi ≤ len` -/
def slice (bs : Bytes) (lo hi : Nat) : Outcome Bytes :=
  if lo ≤ hi ∧ hi ≤ bs.length then .ok ((bs.take hi).drop lo) else .panic

/-- `bs[lo:]` -/
def sliceFrom (bs : Bytes) (lo : Nat) : Outcome Bytes :=
  if lo ≤ bs.length then .ok (bs.drop lo) else .panic

theorem idx_ok {bs : Bytes} {i : Nat} (h : i < bs.length) : idx bs i = .ok (bs.getD i 0) := by
  simp [idx, h]
theorem slice_ok {bs : Bytes} {lo hi : Nat} (h1 : lo ≤ hi) (h2 : hi ≤ bs.length) :
    slice bs lo hi = .ok ((bs.take hi).drop lo) := by
  simp [slice, h1, h2]
theorem sliceFrom_ok {bs : Bytes} {lo : Nat} (h : lo ≤ bs.length) : sliceFrom bs lo = .ok (bs.drop lo) := by
  simp [sliceFrom, h]

theorem sliceFrom_eq {bs r : Bytes} {lo : Nat} (h : sliceFrom bs lo = .ok r) : r = bs.drop lo := by
  unfold sliceFrom at h
  split at h
  · cases h; rfl
  · cases h

theorem idx_eq {bs : Bytes} {i : Nat} {c : UInt8} (h : idx bs i = .ok c) : c = bs.getD i 0 := by
  unfold idx at h
  split at h
  · cases h; rfl
  · cases h

theorem drop_eq_getD_cons {buf : Bytes} {off : Nat} (h : off < buf.length) :
    buf.drop off = buf.getD off 0 :: buf.drop (off + 1) := by
  rw [List.getD_eq_getElem?_getD, List.getElem?_eq_getElem h]
  simp

/-! On `a :: l`, hence on a list of known shape, the primitives run by rewriting. -/

@[simp] theorem idx_cons_zero (a : UInt8) (l : Bytes) : idx (a :: l) 0 = .ok a := by simp [idx]
@[simp] theorem idx_cons_succ (a : UInt8) (l : Bytes) (n : Nat) : idx (a :: l) (n + 1) = idx l n := by simp [idx]
@[simp] theorem sliceFrom_zero (l : Bytes) : sliceFrom l 0 = .ok l := by simp [sliceFrom]
@[simp] theorem sliceFrom_cons_succ (a : UInt8) (l : Bytes) (n : Nat) : sliceFrom (a :: l) (n + 1) = sliceFrom l n := by
  simp [sliceFrom]
@[simp] theorem slice_cons_succ (a : UInt8) (l : Bytes) (lo hi : Nat) : slice (a :: l) (lo + 1) (hi + 1) = slice l lo hi := by
  simp [slice]
@[simp] theorem slice_zero_zero (l : Bytes) : slice l 0 0 = .ok [] := by simp [slice]
@[simp] theorem slice_cons_zero_succ (a : UInt8) (l : Bytes) (hi : Nat) :
    slice (a :: l) 0 (hi + 1) = slice l 0 hi >>= fun r => .ok (a :: r) := by
  by_cases h : hi ≤ l.length <;> simp [slice, h]
theorem slice_zero {l : Bytes} {hi : Nat} (h : hi ≤ l.length) : slice l 0 hi = .ok (l.take hi) := by simp [slice, h]

def ascii (s : String) : Bytes := s.toList.map (fun c => UInt8.ofNat c.toNat)

def hexChar (n : UInt8) : UInt8 := if n < 10 then 48 + n else 87 + n

/-- `hex.EncodeToString` (lower case) -/
def hexEnc : Bytes → Bytes
  | [] => []
  | b :: r => hexChar (b >>> 4) :: hexChar (b &&& 0x0f) :: hexEnc r

@[simp] theorem hexEnc_length (bs : Bytes) : (hexEnc bs).length = 2 * bs.length := by
  induction bs with
  | nil => rfl
  | cons b r ih => simp [hexEnc, ih]; omega

def hexNib (c : UInt8) : Option UInt8 :=
  if 48 ≤ c ∧ c ≤ 57 then some (c - 48)
  else if 97 ≤ c ∧ c ≤ 102 then some (c - 87)
  else if 65 ≤ c ∧ c ≤ 70 then some (c - 55)
  else none

/-- `hex.DecodeString`: `none` = error (odd length or a non-hex byte) -/
def hexDec : Bytes → Option Bytes
  | [] => some []
  | [_] => none
  | a :: b :: r =>
    match hexNib a, hexNib b, hexDec r with
    | some x, some y, some rest => some ((x <<< 4 ||| y) :: rest)
    | _, _, _ => none

/-- `bits.RotateLeft8(b, 4)` -/
def rotl4 (b : UInt8) : UInt8 := (b <<< 4) ||| (b >>> 4)

/-- `strings.Index(s, c)` for a one-byte needle -/
def indexByte : Bytes → UInt8 → Option Nat
  | [], _ => none
  | x :: r, c => if x = c then some 0 else (indexByte r c).map (· + 1)

theorem indexByte_le {s : Bytes} {c : UInt8} {i : Nat} (h : indexByte s c = some i) : i < s.length := by
  induction s generalizing i with
  | nil => simp [indexByte] at h
  | cons x r ih =>
    unfold indexByte at h
    split at h
    · cases h; simp
    · cases hr : indexByte r c with
      | none => simp [hr] at h
      | some j => simp [hr] at h; have := ih hr; simp; omega

/-- `strings.Join(parts, sep)` -/
def join : List Bytes → Bytes → Bytes
  | [], _ => []
  | [p], _ => p
  | p :: q :: r, sep => p ++ sep ++ join (q :: r) sep

/-- decimal digits of a natural number (`%d`, `strconv.FormatUint(·, 10)`, `strconv.Itoa` for n ≥ 0) -/
def fmtDec (n : Nat) : Bytes := ascii (toString n)

/-- `fmt.Sprintf("%x", b)` for a `uint8`: lower-case hex without leading zeros -/
def fmtHex8 (b : UInt8) : Bytes :=
  if b < 16 then [hexChar b] else [hexChar (b >>> 4), hexChar (b &&& 0x0f)]

/-- `strconv.Atoi(string(b))` for one byte `b` (`string(byte)` is the UTF-8 encoding of the code point `b`):
succeeds exactly on an ASCII digit -/
def atoi1 (b : UInt8) : Option UInt8 := if 48 ≤ b ∧ b ≤ 57 then some (b - 48) else none

end NasVerif

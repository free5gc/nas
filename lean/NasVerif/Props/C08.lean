import NasVerif.Props.C07
import NasVerif.Proofs.EncLoops
import NasVerif.Gen.Globals
/-!
# C08 — security API laws

Proved for the model of `NASEncrypt` / `NASMacCalculate` (all algorithm ids 0..255, bearers, directions 0..255, payloads
incl. empty and nil): argument validation (error, payload untouched), NULL algorithms, MAC length; for algorithm 2
(any block cipher with 16-octet blocks) and for algorithms 1 and 3 (by the closed form of `Proofs/EncLoops.lean` at
LENGTH = 8·octets): length preservation, involution, prefix stability, plaintext independence; no payload or message length
makes either API panic.
-/
namespace NasVerif.Props.C08
open NasVerif NasVerif.Model NasVerif.Model.Security

variable (E : Bytes → Bytes → Bytes)

theorem algo_cases (a : UInt8) : a = 0 ∨ a = 1 ∨ a = 2 ∨ a = 3 ∨ a > 3 := by
  simp only [← UInt8.toNat_inj, gt_iff_lt, UInt8.lt_iff_toNat_lt, UInt8.toNat_ofNat]
  omega

theorem algo_gt3 {a : UInt8} (h : a > 3) : a ≠ 0 ∧ a ≠ 1 ∧ a ≠ 2 ∧ a ≠ 3 := by
  refine ⟨?_, ?_, ?_, ?_⟩ <;> (rintro rfl; exact absurd h (by decide))

/-- a bearer above 31 is an error and leaves the payload untouched -/
theorem enc_bad_bearer (algo : UInt8) (key : Bytes) (count : W32) (b d : UInt8) (p : Option Bytes) (h : b > 0x1f) :
    NASEncrypt E algo key count b d p = .ok ⟨true, p⟩ := by simp [NASEncrypt, h]

theorem enc_bad_direction (algo : UInt8) (key : Bytes) (count : W32) (b d : UInt8) (p : Option Bytes)
    (hb : ¬ b > 0x1f) (h : d > 1) : NASEncrypt E algo key count b d p = .ok ⟨true, p⟩ := by simp [NASEncrypt, hb, h]

theorem enc_nil_payload (algo : UInt8) (key : Bytes) (count : W32) (b d : UInt8) :
    ∃ r, NASEncrypt E algo key count b d none = .ok r ∧ r.err = true ∧ r.payload = none :=
  ⟨⟨true, none⟩, by simp [NASEncrypt], rfl, rfl⟩

theorem enc_unknown_algo (algo : UInt8) (key : Bytes) (count : W32) (b d : UInt8) (p : Bytes)
    (hb : ¬ b > 0x1f) (hd : ¬ d > 1) (h : algo > 3) :
    NASEncrypt E algo key count b d (some p) = .ok ⟨true, some p⟩ := by
  obtain ⟨h0, h1, h2, h3⟩ := algo_gt3 h
  simp [NASEncrypt, hb, hd, h0, h1, h2, h3]

/-- algorithm 0 leaves the payload unchanged -/
theorem enc_null (key : Bytes) (count : W32) (b d : UInt8) (p : Bytes) (hb : ¬ b > 0x1f) (hd : ¬ d > 1) :
    NASEncrypt E 0 key count b d (some p) = .ok ⟨false, some p⟩ := by simp [NASEncrypt, hb, hd]

theorem mac_invalid (algo : UInt8) (key : Bytes) (count : W32) (b d : UInt8) (m : Option Bytes)
    (h : b > 0x1f ∨ d > 1 ∨ m = none) : NASMacCalculate E algo key count b d m = .ok none := by
  rcases h with h | h | h <;> simp [NASMacCalculate, h]

theorem mac_unknown_algo (algo : UInt8) (key : Bytes) (count : W32) (b d : UInt8) (m : Bytes) (h : algo > 3) :
    NASMacCalculate E algo key count b d (some m) = .ok none := by
  obtain ⟨h0, h1, h2, h3⟩ := algo_gt3 h
  simp [NASMacCalculate, h0, h1, h2, h3]

/-- algorithm 0 yields the all-zero MAC -/
theorem mac_null (key : Bytes) (count : W32) (b d : UInt8) (m : Bytes) (hb : ¬ b > 0x1f) (hd : ¬ d > 1) :
    NASMacCalculate E 0 key count b d (some m) = .ok (some [0, 0, 0, 0]) := by simp [NASMacCalculate, hb, hd]

theorem put32_length (w : W32) : (put32 w).length = 4 := rfl

theorem nia1_length (ik : Bytes) (c : W32) (b : UInt8) (d : W32) (msg : Bytes) (len : Nat) (mac : Bytes)
    (h : NIA1 ik c b d msg len = .ok mac) : mac.length = 4 := by
  unfold NIA1 at h
  simp only at h
  split at h <;> cases h
  rfl

theorem nia3_length (ik : Bytes) (c : W32) (b d : UInt8) (msg : Bytes) (len : Nat) (mac : Bytes)
    (h : NIA3 ik c b d msg len = .ok mac) : mac.length = 4 := by
  unfold NIA3 genMac at h
  simp only at h
  split at h
  · unfold genMacFin at h
    split at h <;> cases h
    rfl
  · cases h
  · cases h

theorem cmacLoop_length (F : Bytes → Bytes) (hF : ∀ blk, (F blk).length = 16) (m x k1 k2 : Bytes) :
    (Spec.AES.cmacLoop F m x k1 k2).length = 16 := by
  induction m, x, k1, k2 using Spec.AES.cmacLoop.induct F with
  | case1 m x k1 k2 h => unfold Spec.AES.cmacLoop; simp [h, hF]
  | case2 m x k1 k2 h ih => unfold Spec.AES.cmacLoop; simpa only [h, dite_false] using ih

theorem cmac_length (F : Bytes → Bytes) (hF : ∀ blk, (F blk).length = 16) (m : Bytes) : (Spec.AES.cmac F m).length = 16 :=
  cmacLoop_length F hF m _ _ _

theorem nasMac_ok (algo : UInt8) (key : Bytes) (count : W32) (b d : UInt8) (m : Option Bytes) :
    ∃ r, NASMacCalculate E algo key count b d m = .ok r ∧
      ((∀ k blk, (E k blk).length = 16) → ∀ mac, r = some mac → mac.length = 4) := by
  by_cases hv : b > 0x1f ∨ d > 1 ∨ m = none
  · exact ⟨none, mac_invalid E algo key count b d m hv, fun _ _ h => nomatch h⟩
  obtain ⟨msg, rfl⟩ : ∃ msg, m = some msg := by cases m <;> simp_all
  have hb : ¬ b > 0x1f := fun h => hv (.inl h)
  have hd : ¬ d > 1 := fun h => hv (.inr (.inl h))
  rcases algo_cases algo with rfl | rfl | rfl | rfl | h
  · exact ⟨_, mac_null E key count b d msg hb hd, fun _ _ h => by cases h; rfl⟩
  · obtain ⟨x, hx⟩ := Proofs.EncLoops.nia1_no_panic key count b (BitVec.ofNat 32 d.toNat) msg
    exact ⟨some x, Proofs.MacLoops.nasMac_nia1 E key count b d msg x hb hd hx, fun _ _ h => by cases h; exact nia1_length _ _ _ _ _ _ _ hx⟩
  · exact ⟨_, Proofs.MacLoops.nasMac_nia2 E key count b d msg _ hb hd rfl,
      fun hE _ h => by cases h; simp [cmac_length (E key) (hE key)]⟩
  · obtain ⟨x, hx⟩ := Proofs.EncLoops.nia3_no_panic key count b d msg
    exact ⟨some x, Proofs.MacLoops.nasMac_nia3 E key count b d msg x hb hd hx, fun _ _ h => by cases h; exact nia3_length _ _ _ _ _ _ _ hx⟩
  · exact ⟨none, mac_unknown_algo E algo key count b d msg h, fun _ _ h => nomatch h⟩

/-- a MAC, when one is returned, is exactly 4 octets (algorithm 2 needs the block cipher to return 16-octet blocks) -/
theorem mac_length (algo : UInt8) (key : Bytes) (count : W32) (b d : UInt8) (m : Option Bytes) (mac : Bytes)
    (hE : ∀ k blk, (E k blk).length = 16)
    (h : NASMacCalculate E algo key count b d m = .ok (some mac)) : mac.length = 4 := by
  obtain ⟨r, hr, hl⟩ := nasMac_ok E algo key count b d m
  rw [hr] at h
  cases h
  exact hl hE mac rfl

theorem ctrStream_length (F : Bytes → Bytes) (hF : ∀ blk, (F blk).length = 16) (n : Nat) (c : Bytes) :
    (Spec.AES.ctrStream F n c).length = 16 * n := by
  induction n generalizing c with
  | zero => rfl
  | succ n ih => simp [Spec.AES.ctrStream, hF, ih]; omega

theorem ctrStream_prefix (F : Bytes → Bytes) (hF : ∀ blk, (F blk).length = 16) (n m : Nat) (h : m ≤ n) (c : Bytes) :
    (Spec.AES.ctrStream F n c).take (16 * m) = Spec.AES.ctrStream F m c := by
  induction m generalizing n c with
  | zero => simp [Spec.AES.ctrStream]
  | succ m ih =>
    obtain ⟨n, rfl⟩ : ∃ k, n = k + 1 := ⟨n - 1, by omega⟩
    rw [show 16 * (m + 1) = (F c).length + 16 * m by rw [hF]; omega]
    simp only [Spec.AES.ctrStream, List.take_length_add_append, ih n (by omega)]

/-- the keystream octets applied to an `n`-octet payload -/
def ctrKS (F : Bytes → Bytes) (iv : Bytes) (n : Nat) : Bytes := (Spec.AES.ctrStream F ((n + 15) / 16) iv).take n

theorem ctrKS_family (F : Bytes → Bytes) (hF : ∀ blk, (F blk).length = 16) (iv : Bytes) :
    Proofs.EncLoops.KsFamily (ctrKS F iv) := by
  refine ⟨fun n => by simp [ctrKS, ctrStream_length F hF]; omega, fun n m h => ?_⟩
  unfold ctrKS
  rw [List.take_take, Nat.min_eq_left h, ← ctrStream_prefix F hF _ _ (show (m + 15) / 16 ≤ (n + 15) / 16 by omega) iv, List.take_take]
  congr 1
  omega

open NasVerif.Proofs.EncLoops in
/-- a cipher `run` that returns, wrapped by `ret`, its input XORed with a keystream family: length preservation, involution,
prefix stability, plaintext independence -/
theorem xorKs_laws {β : Type} (run ret : Bytes → β) (ks : Nat → Bytes) (hks : KsFamily ks)
    (hrun : ∀ q, run q = ret (Spec.AES.xorB q (ks q.length))) (p : Bytes) :
    ∃ out, run p = ret out ∧ out.length = p.length ∧ run out = ret p ∧
      (∀ n, n ≤ p.length → run (p.take n) = ret (out.take n)) ∧
      (∀ p' : Bytes, p'.length = p.length → ∃ out', run p' = ret out' ∧ Spec.AES.xorB out' p' = Spec.AES.xorB out p) := by
  obtain ⟨hl, hp⟩ := hks
  have hlen : (Spec.AES.xorB p (ks p.length)).length = p.length := xorB_length_eq p _ (hl _)
  refine ⟨_, hrun p, hlen, ?_, fun n hn => ?_, fun p' hp' => ⟨_, hrun p', ?_⟩⟩
  · rw [hrun, hlen, xorB_xorB p _ (hl _)]
  · rw [hrun, xorB_take, List.length_take, Nat.min_eq_left hn, hp _ _ hn]
  · rw [hp', xorB_comm p' _, xorB_comm p _, xorB_xorB _ p' (by rw [hl, hp']), xorB_xorB _ p (by rw [hl])]

theorem nea2_form (key : Bytes) (count : W32) (b d : UInt8) (p : Bytes) :
    NEA2 E key count b d p = .ok (Spec.AES.xorB p (ctrKS (E key) (counterBlock count b d) p.length)) := rfl

/-- the four laws for `NEA2` under a block cipher that returns 16 octets under this key -/
theorem nea2_laws (key : Bytes) (count : W32) (b d : UInt8) (hE : ∀ blk, (E key blk).length = 16) (p out : Bytes)
    (h : NEA2 E key count b d p = .ok out) :
    out.length = p.length ∧ NEA2 E key count b d out = .ok p ∧
      (∀ n, n ≤ p.length → NEA2 E key count b d (p.take n) = .ok (out.take n)) ∧
      (∀ p' : Bytes, p'.length = p.length → ∃ out', NEA2 E key count b d p' = .ok out' ∧
        Spec.AES.xorB out' p' = Spec.AES.xorB out p) := by
  obtain ⟨out', hrun, laws⟩ := xorKs_laws (NEA2 E key count b d) .ok _ (ctrKS_family (E key) hE (counterBlock count b d))
    (nea2_form E key count b d) p
  obtain rfl : out' = out := Outcome.ok.inj (hrun.symm.trans h)
  exact laws

theorem nea2_length (key : Bytes) (count : W32) (b d : UInt8) (p out : Bytes) (hE : ∀ k blk, (E k blk).length = 16)
    (h : NEA2 E key count b d p = .ok out) : out.length = p.length :=
  have ⟨hlen, _⟩ := nea2_laws E key count b d (hE key) p out h
  hlen

theorem nea2_involution (key : Bytes) (count : W32) (b d : UInt8) (p out : Bytes) (hE : ∀ k blk, (E k blk).length = 16)
    (h : NEA2 E key count b d p = .ok out) : NEA2 E key count b d out = .ok p :=
  have ⟨_, hinv, _⟩ := nea2_laws E key count b d (hE key) p out h
  hinv

/-- the ciphertext of a prefix is the prefix of the ciphertext -/
theorem nea2_prefix (key : Bytes) (count : W32) (b d : UInt8) (p out : Bytes) (n : Nat) (hn : n ≤ p.length)
    (hE : ∀ k blk, (E k blk).length = 16) (h : NEA2 E key count b d p = .ok out) :
    NEA2 E key count b d (p.take n) = .ok (out.take n) :=
  have ⟨_, _, hpre, _⟩ := nea2_laws E key count b d (hE key) p out h
  hpre n hn

open NasVerif.Proofs.EncLoops in
/-- the closed form: for algorithm 1 or 3 and valid bearer / direction every payload is XORed with a keystream family -/
theorem enc13_closed_form (algo : UInt8) (key : Bytes) (count : W32) (b d : UInt8) (ha : algo = 1 ∨ algo = 3)
    (hb : ¬ b > 0x1f) (hd : ¬ d > 1) :
    ∃ ks : Nat → Bytes, KsFamily ks ∧ ∀ q : Bytes, NASEncrypt E algo key count b d (some q) = .ok ⟨false, some (Spec.AES.xorB q (ks q.length))⟩ := by
  rcases ha with rfl | rfl
  · exact ⟨_, ks1_family key count (BitVec.ofNat 32 b.toNat) (BitVec.ofNat 32 d.toNat), fun q => nasEncrypt1_form E key count b d q hb hd⟩
  · exact ⟨_, ks3_family key count b d, fun q => nasEncrypt3_form E key count b d q hb hd⟩

/-- length preservation, involution, prefix stability and plaintext independence for algorithms 1 and 3, through the API -/
theorem enc13_involution_prefix (algo : UInt8) (key : Bytes) (count : W32) (b d : UInt8) (ha : algo = 1 ∨ algo = 3)
    (hb : ¬ b > 0x1f) (hd : ¬ d > 1) (p : Bytes) :
    ∃ out, NASEncrypt E algo key count b d (some p) = .ok ⟨false, some out⟩ ∧ out.length = p.length ∧
      NASEncrypt E algo key count b d (some out) = .ok ⟨false, some p⟩ ∧
      (∀ n, n ≤ p.length → NASEncrypt E algo key count b d (some (p.take n)) = .ok ⟨false, some (out.take n)⟩) ∧
      (∀ p' : Bytes, p'.length = p.length → ∃ out', NASEncrypt E algo key count b d (some p') = .ok ⟨false, some out'⟩ ∧
        Spec.AES.xorB out' p' = Spec.AES.xorB out p) := by
  obtain ⟨ks, hks, hf⟩ := enc13_closed_form E algo key count b d ha hb hd
  exact xorKs_laws (fun q => NASEncrypt E algo key count b d (some q)) (fun out => .ok ⟨false, some out⟩) ks hks hf p

theorem nasEncrypt_ok (algo : UInt8) (key : Bytes) (count : W32) (b d : UInt8) (p : Option Bytes) :
    ∃ r, NASEncrypt E algo key count b d p = .ok r := by
  by_cases hb : b > 0x1f
  · exact ⟨_, enc_bad_bearer E algo key count b d p hb⟩
  by_cases hd : d > 1
  · exact ⟨_, enc_bad_direction E algo key count b d p hb hd⟩
  cases p with
  | none => obtain ⟨r, h, _⟩ := enc_nil_payload E algo key count b d; exact ⟨r, h⟩
  | some q =>
    rcases algo_cases algo with rfl | rfl | rfl | rfl | h
    · exact ⟨_, enc_null E key count b d q hb hd⟩
    · exact ⟨_, Proofs.EncLoops.nasEncrypt1_form E key count b d q hb hd⟩
    · exact ⟨_, Proofs.EncLoops.nasEncrypt_nea2 E key count b d q _ hb hd rfl⟩
    · exact ⟨_, Proofs.EncLoops.nasEncrypt3_form E key count b d q hb hd⟩
    · exact ⟨_, enc_unknown_algo E algo key count b d q hb hd h⟩

/-- no algorithm identity, bearer, direction, payload or message (nil, empty or of any length) makes either API panic -/
theorem api_never_panics (algo : UInt8) (key : Bytes) (count : W32) (b d : UInt8) (p : Option Bytes) :
    NASEncrypt E algo key count b d p ≠ .panic ∧ NASMacCalculate E algo key count b d p ≠ .panic := by
  obtain ⟨r, hr⟩ := nasEncrypt_ok E algo key count b d p
  obtain ⟨s, hs, _⟩ := nasMac_ok E algo key count b d p
  rw [hr, hs]
  exact ⟨nofun, nofun⟩

/-- the guards taken as hypotheses can be met -/
example : (8 : UInt8) > 3 ∧ ¬ ((31 : UInt8) > 0x1f) ∧ ((32 : UInt8) > 0x1f) := by decide

theorem security_stateless :
    ∀ p ∈ Gen.Globals.writerPkgs, p ≠ "security" ∧ p ≠ "security/snow3g" ∧ p ≠ "security/zuc" := C06.security_stateless

end NasVerif.Props.C08

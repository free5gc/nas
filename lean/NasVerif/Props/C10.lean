import NasVerif.Proofs.HeapLemmas
import NasVerif.Props.Codec
/-!
# C10 — decode and encode are pure: no input mutation, no aliasing, deterministic

About the codec interpreter with explicit memory, `Codec/Heap.lean`. What the Go library calls do to memory is modelled
there, not verified: its header lists the assumptions. The theorems hold for **every** table, hence for the 45 tables
regenerated from /repo on this run (`Props.Codec.translator_total`: every statement of the 90 codec functions was mapped to
this IR, which has no aliasing or input-writing construct — a statement such as `a.X.Buffer = buffer.Next(n)` is outside the
IR, fails the run, and is then searched with the aliasing oracles on the real code).
-/
namespace NasVerif.Props.C10
open NasVerif.Codec NasVerif.Codec.HeapSem NasVerif.Props.Codec

/-- decoding (accepted input) leaves every pre-existing region — the input bytes included — exactly as it was -/
theorem decode_leaves_memory (d : MsgDef) (h : Heap) (inp : Nat) (m : MsgValH) (h' : Heap)
    (hd : decodeH d h inp = .ok (m, h')) (r : Nat) (hr : r < h.length) : h'.getD r [] = h.getD r [] := by
  obtain ⟨ext, rfl⟩ := (decodeH_ok hd).1.ext
  exact getD_append_left h ext [] hr

/-- rejected input: the decoder returns no heap at all — nothing it could have written is observable; the outcome is the
value-level decoder's error -/
theorem decode_rejects_purely (d : MsgDef) (h : Heap) (inp : Nat) (e : Err) (hd : decodeH d h inp = .err e) :
    decode d (h.getD inp []) = .err e :=
  (decodeH_sim d h inp).of_err hd

/-- every slice reachable from the decoded message lies in a region created during the call: it is not the input region and
not any region that existed before -/
theorem decode_fresh (d : MsgDef) (h : Heap) (inp : Nat) (m : MsgValH) (h' : Heap)
    (hd : decodeH d h inp = .ok (m, h')) (x : Nat) (hx : x ∈ m.refs) : h.length ≤ x ∧ x < h'.length :=
  (decodeH_ok hd).1.fresh x hx

/-- no two elements of the decoded message share a region: the slices reachable from it are pairwise distinct regions (each was
allocated by its own `make`, and an element that is decoded twice leaves its first region unreferenced) -/
theorem decode_elements_disjoint (d : MsgDef) (h : Heap) (inp : Nat) (m : MsgValH) (h' : Heap)
    (hd : decodeH d h inp = .ok (m, h')) : m.refs.Nodup :=
  (decodeH_ok hd).1.nodup

/-- the decoded message, read through the heap, is what the heap-free decoder of C01–C04 returns on the input contents -/
theorem decode_erasure (d : MsgDef) (h : Heap) (inp : Nat) (m : MsgValH) (h' : Heap)
    (hd : decodeH d h inp = .ok (m, h')) : decode d (h.getD inp []) = .ok (m.erase h') :=
  (decodeH_ok hd).2

theorem erase_set_other (m : MsgValH) (h : Heap) (r : Nat) (x : Bytes) (hr : r ∉ m.refs) : m.erase (h.set r x) = m.erase h :=
  m.erase_congr fun q hq => getD_set_ne h r q x [] fun he => hr (he ▸ hq)

/-- mutating the input after decoding does not affect the message -/
theorem input_mutation_invisible (d : MsgDef) (h : Heap) (inp : Nat) (hin : inp < h.length) (m : MsgValH) (h' : Heap)
    (hd : decodeH d h inp = .ok (m, h')) (x : Bytes) : m.erase (h'.set inp x) = m.erase h' := by
  apply erase_set_other
  intro hc
  have := (decode_fresh d h inp m h' hd inp hc).1
  omega

/-- mutating any slice of the message after decoding does not affect the input (nor any other pre-existing region) -/
theorem message_mutation_invisible (d : MsgDef) (h : Heap) (inp : Nat) (m : MsgValH) (h' : Heap)
    (hd : decodeH d h inp = .ok (m, h')) (r : Nat) (hr : r ∈ m.refs) (x : Bytes) (q : Nat) (hq : q < h.length) :
    (h'.set r x).getD q [] = h.getD q [] := by
  have hf := (decode_fresh d h inp m h' hd r hr).1
  rw [← decode_leaves_memory d h inp m h' hd q hq]
  exact getD_set_ne h' r q x [] (by omega)

/-- determinism: the decoded value depends only on the input contents — not on where the input lives, nor on anything else in memory -/
theorem decode_deterministic (d : MsgDef) (h1 h2 : Heap) (i1 i2 : Nat) (hsame : h1.getD i1 [] = h2.getD i2 [])
    (m1 m2 : MsgValH) (g1 g2 : Heap) (hd1 : decodeH d h1 i1 = .ok (m1, g1)) (hd2 : decodeH d h2 i2 = .ok (m2, g2)) :
    m1.erase g1 = m2.erase g2 := by
  have e1 := decode_erasure d h1 i1 m1 g1 hd1
  have e2 := decode_erasure d h2 i2 m2 g2 hd2
  rw [hsame] at e1
  rw [e1] at e2
  exact Outcome.ok.inj e2

/-- the encode side is specified, not interpreted: `encodeH` is defined as appending the value-level `encode` of the message to the
output region. Read back from that definition: the output region gains exactly those octets, no other region changes, and if the
output region is none of the message's own slices (a hypothesis here) the message reads the same afterwards -/
theorem encode_appends (d : MsgDef) (m : MsgValH) (h : Heap) (out : Nat) (hout : out < h.length) (h' : Heap)
    (he : encodeH d m h out = .ok h') :
    ∃ bytes, encode d (m.erase h) = .ok bytes ∧ h'.getD out [] = h.getD out [] ++ bytes ∧
      (∀ r, r ≠ out → h'.getD r [] = h.getD r []) ∧ (out ∉ m.refs → m.erase h' = m.erase h) := by
  unfold encodeH at he
  cases hb : encode d (m.erase h) with
  | ok bytes =>
    simp only [hb] at he
    cases he
    refine ⟨bytes, rfl, ?_, ?_, ?_⟩
    · exact getD_set_eq h out _ [] hout
    · exact fun r hr => getD_set_ne h out r _ [] (Ne.symm hr)
    · intro hn; exact erase_set_other m h out _ hn
  | _ => simp [hb] at he

/-- instantiation: every one of the 45 regenerated `Decode<Msg>` tables -/
theorem msgDecode_pure (name : String) (e : MsgEntry) (_h : findMsg Model.top.msgs name = some e) (hp : Heap) (inp : Nat)
    (m : MsgValH) (h' : Heap) (hd : decodeH e.dec hp inp = .ok (m, h')) :
    (∀ r, r < hp.length → h'.getD r [] = hp.getD r []) ∧ (∀ x ∈ m.refs, hp.length ≤ x) ∧
      decode e.dec (hp.getD inp []) = .ok (m.erase h') :=
  ⟨fun r hr => decode_leaves_memory _ _ _ _ _ hd r hr, fun x hx => (decode_fresh _ _ _ _ _ hd x hx).1, decode_erasure _ _ _ _ _ hd⟩

/-- non-vacuity: a real table, an input with an optional TLV-E element living at region 1 of a heap with other contents; the
decoded Buffer lands in a new region 2 and nothing else changes -/
example : decodeH Gen.dec_RegistrationReject [[0xde, 0xad], [0x7e, 0x00, 0x44, 0x01, 0x78, 0x00, 0x04, 0xaa, 0xbb, 0xcc, 0xdd]] 1 =
    .ok (⟨[⟨0, 0, .inline [0x7e]⟩, ⟨0, 0, .inline [0x00]⟩, ⟨0, 0, .inline [0x44]⟩, ⟨0, 0, .inline [0x01]⟩],
          [none, none, some ⟨0x78, 4, .ref 2⟩]⟩,
         [[0xde, 0xad], [0x7e, 0x00, 0x44, 0x01, 0x78, 0x00, 0x04, 0xaa, 0xbb, 0xcc, 0xdd], [0xaa, 0xbb, 0xcc, 0xdd]]) := by decide

end NasVerif.Props.C10

import NasVerif.Gen.CryptoLeaf
import NasVerif.Model.Snow3g
import NasVerif.Model.Zuc
import NasVerif.Model.Security
import Std.Tactic.BVDecide
/-!
# Tie between the leaf functions regenerated from `/repo/security/**` on this run and the hand-written model (C06, C07, C08)

`Gen/CryptoLeaf.lean` is written on every run by `tools/extract/leaf.go` from the typed ASTs of the leaf functions that
`tie_translated` lists. The property theorems are stated about `Model/Snow3g.lean`, `Model/Zuc.lean` and `Model/Security.lean`;
the theorems below say that those model functions are the functions the source defines on this run. The loops and the
state-passing methods built on top of these leaf functions remain tied by the correspondence run.
-/
namespace NasVerif.Props.CryptoLeafTie
open NasVerif

/-- for what `simp only` leaves of a tie goal, always called as `all_goals leaf_close`. On the unchanged tree both sides unfold to
the same term, `simp only` leaves no goal and the call does nothing (kernel only, standard axioms). A goal that is left after a
change of the source is tried by `ac_rfl` (equal up to associativity and commutativity of the operators), else the bit-vector
equation is handed to `bv_decide` (lookup tables stay abstract) -- which adds a `tie_*._native.bv_decide.ax_*` axiom that the
audit reports and accepts for `tie_*` theorems only (as in C11Tie). The alternative `done` cannot succeed on a goal that is left. -/
macro "leaf_close" : tactic => `(tactic| first | done | ac_rfl | bv_decide)

theorem tie_translated :
    Gen.Leaf.translated = ["snow_mulx", "snow_mulxPow", "snow_s1", "snow_s2", "snow_mulAlpha", "snow_divAlpha",
      "zuc_rot", "zuc_l1", "zuc_l2", "zuc_makeU32", "sec_mulx", "sec_mulxPow"] := rfl

theorem tie_snow_tab_sr : Gen.Leaf.snow_tab_sr = Model.Snow3g.sr := rfl
theorem tie_snow_tab_sq : Gen.Leaf.snow_tab_sq = Model.Snow3g.sq := rfl

theorem tie_snow_mulx : Gen.Leaf.snow_mulx = Model.Snow3g.mulx := by
  funext V c; simp only [Gen.Leaf.snow_mulx, Model.Snow3g.mulx]; all_goals leaf_close

theorem tie_snow_mulxPow (V : BitVec 8) (n : Nat) (c : BitVec 8) : Gen.Leaf.snow_mulxPow V n c = Model.Snow3g.mulxPow V n c := by
  induction n generalizing c with
  | zero => rfl
  | succ n ih => simp only [Gen.Leaf.snow_mulxPow, Model.Snow3g.mulxPow, ih, tie_snow_mulx]

theorem tie_snow_s1 : Gen.Leaf.snow_s1 = Model.Snow3g.s1 := by
  funext w
  simp only [Gen.Leaf.snow_s1, Model.Snow3g.s1, tie_snow_mulx, tie_snow_tab_sr, Model.Snow3g.u32]
  all_goals leaf_close

theorem tie_snow_s2 : Gen.Leaf.snow_s2 = Model.Snow3g.s2 := by
  funext w
  simp only [Gen.Leaf.snow_s2, Model.Snow3g.s2, tie_snow_mulx, tie_snow_tab_sq, Model.Snow3g.u32]
  all_goals leaf_close

theorem tie_snow_mulAlpha : Gen.Leaf.snow_mulAlpha = Model.Snow3g.mulAlpha := by
  funext c
  simp only [Gen.Leaf.snow_mulAlpha, Model.Snow3g.mulAlpha, tie_snow_mulxPow, Model.Snow3g.u32]
  all_goals leaf_close

theorem tie_snow_divAlpha : Gen.Leaf.snow_divAlpha = Model.Snow3g.divAlpha := by
  funext c
  simp only [Gen.Leaf.snow_divAlpha, Model.Snow3g.divAlpha, tie_snow_mulxPow, Model.Snow3g.u32]
  all_goals leaf_close

theorem tie_zuc_rot : Gen.Leaf.zuc_rot = Model.Zuc.rot := by
  funext a k; simp only [Gen.Leaf.zuc_rot, Model.Zuc.rot]; all_goals leaf_close
theorem tie_zuc_l1 : Gen.Leaf.zuc_l1 = Model.Zuc.l1 := by
  funext x; simp only [Gen.Leaf.zuc_l1, Model.Zuc.l1, tie_zuc_rot]; all_goals leaf_close
theorem tie_zuc_l2 : Gen.Leaf.zuc_l2 = Model.Zuc.l2 := by
  funext x; simp only [Gen.Leaf.zuc_l2, Model.Zuc.l2, tie_zuc_rot]; all_goals leaf_close
theorem tie_zuc_makeU32 : Gen.Leaf.zuc_makeU32 = Model.Zuc.makeU32 := by
  funext a b c d; simp only [Gen.Leaf.zuc_makeU32, Model.Zuc.makeU32]; all_goals leaf_close
theorem tie_zuc_tab_sbox0 : Gen.Leaf.zuc_tab_sbox0 = Model.Zuc.sbox0 := rfl
theorem tie_zuc_tab_sbox1 : Gen.Leaf.zuc_tab_sbox1 = Model.Zuc.sbox1 := rfl

theorem tie_sec_mulx : Gen.Leaf.sec_mulx = Model.Security.mulx := by
  funext V c; simp only [Gen.Leaf.sec_mulx, Model.Security.mulx]; all_goals leaf_close
theorem tie_sec_mulxPow (V : BitVec 64) (n : Nat) (c : BitVec 64) : Gen.Leaf.sec_mulxPow V n c = Model.Security.mulxPow V n c := by
  induction n generalizing c with
  | zero => rfl
  | succ n ih => simp only [Gen.Leaf.sec_mulxPow, Model.Security.mulxPow, ih, tie_sec_mulx]

end NasVerif.Props.CryptoLeafTie

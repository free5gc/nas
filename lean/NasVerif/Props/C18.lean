import NasVerif.Proofs.UePolicyApiLemmas
import NasVerif.Props.C12
/-!
# C18 — UE policy container codec is total, round-trips, and codes PLMNs per TS 24.008

Model: `Model/UePolicy.lean` (the uePolicyContainer package), tied to the Go code by the correspondence run.
* totality: the three decoders return a value or an error for every byte string; every nested list walker finishes within
  its fuel because each element parsed consumes at least 3..5 octets (fuel exhaustion is a `panic` in the model);
* round trip: lists / results / messages built through the API (`WF…` at the head of `Proofs/UePolicyLemmas.lean`: every nested
  body fits its 16-bit length field, a policy part's `Len` is 0 or matches its contents, PLMN octets carry valid digits) decode
  to the same structure with every length recomputed from content (`norm…`); the API theorems are stated on descriptions of the
  construction script (`Valid…D`, `expect…` at the head of `Proofs/UePolicyApiLemmas.lean`);
* PLMN: `SetPlmnDigit` yields the TS 24.008 10.5.1.13 octets — the ones `PlmnIDToNas` produces for the same MCC / MNC — for
  every MCC 100..999 and MNC 9..999 (the setter rejects 0..8; an MNC below 100 is a two-digit MNC, so 9 is "09"), and the parsers
  read the same numbers back.
The source modelled is /repo with the repairs of defects F9, F10 and F17.
-/
namespace NasVerif.Props.C18
open NasVerif NasVerif.Model.Qos NasVerif.Model.UePolicy NasVerif.Proofs.Qos NasVerif.Proofs.UePolicy NasVerif.Spec.Identity NasVerif.Proofs.Identity

theorem unmarshalList_total (b : Bytes) : NoPanic (unmarshalList b) := by
  rw [unmarshalList, subListLoop_eq]; exact walk_eof_total eats_parseSubList b

theorem unmarshalResult_total (b : Bytes) : NoPanic (unmarshalResult b) := by
  rw [unmarshalResult, subResultLoop_eq]; exact walk_eof_total eats_parseSubResult b

theorem decodeMsg_total (b : Bytes) : NoPanic (decodeMsg b) := by
  have np8 : ∀ r, NoPanic (readU8 r) := fun r => (eats_readU8 r).noPanic
  unfold decodeMsg
  split
  · exact np_err _
  · exact np_err _
  · simp only [np_simp, np8, Prod.forall]

/-- `SetPlmnDigit` (sublist and sub-result) produces the TS 24.008 10.5.1.13 octets of the PLMN, the same as `PlmnIDToNas` -/
theorem setPlmnDigit_spec (mcc mnc : Nat) (h1 : 100 ≤ mcc) (h2 : mcc ≤ 999) (h3 : 9 ≤ mnc) (h4 : mnc ≤ 999) :
    ∃ a b c, setPlmnDigit mcc mnc = .ok (a, b, c) ∧ [a, b, c] = (plmnOfNumbers mcc mnc).octets ∧
      plmnNumbers a b c = some (mcc, mnc) := by
  have l : ∀ {n}, n < 10 → n < 16 := fun h => Nat.lt_trans h (by decide)
  unfold setPlmnDigit plmnOfNumbers
  rw [if_neg (by omega), if_neg (by omega)]
  obtain ⟨d1, d2, d3, e⟩ := digits3 mcc h2
  have o1 := ofNat_shl4_or _ (l d2) _ (l d1)
  by_cases hm : mnc < 100
  · obtain ⟨c1, c2, e'⟩ := digits2 mnc hm
    have o2 : (0xf0 : UInt8) ||| UInt8.ofNat (mcc % 10) = oct 15 (mcc % 10) := ofNat_shl4_or 15 (by decide) _ (l d3)
    simp only [hm, if_true, o1, o2, ofNat_shl4_or _ (l c2) _ (l c1), Outcome.pure_eq]
    refine ⟨_, _, _, rfl, by simp [Plmn.octets], ?_⟩
    rw [plmnNumbers_oct d1 d2 d3 c1 c2 (.inr rfl), if_pos rfl, e, e']
  · obtain ⟨c1, c2, c3, e'⟩ := digits3 mnc h4
    simp only [hm, if_false, o1, ofNat_shl4_or _ (l c3) _ (l d3), ofNat_shl4_or _ (l c2) _ (l c1), Outcome.pure_eq]
    refine ⟨_, _, _, rfl, by simp [Plmn.octets], ?_⟩
    rw [plmnNumbers_oct d1 d2 d3 c1 c2 (.inl c3), if_neg (by omega), e, e']

/-- `PlmnIDToNas` on the decimal text of the same numbers gives the same three octets -/
theorem setPlmnDigit_eq_plmnIDToNas (mcc mnc : Nat) (h1 : 100 ≤ mcc) (h2 : mcc ≤ 999) (h3 : 9 ≤ mnc) (h4 : mnc ≤ 999) :
    ∃ a b c, setPlmnDigit mcc mnc = .ok (a, b, c) ∧
      NasVerif.Model.Convert.plmnIDToNas (plmnOfNumbers mcc mnc).mccText (plmnOfNumbers mcc mnc).mncText = .ok [a, b, c] := by
  obtain ⟨a, b, c, hs, ho, _⟩ := setPlmnDigit_spec mcc mnc h1 h2 h3 h4
  refine ⟨a, b, c, hs, ?_⟩
  rw [ho]
  apply NasVerif.Props.C12.text_to_plmn
  obtain ⟨d1, d2, d3, -⟩ := digits3 mcc h2
  unfold plmnOfNumbers
  split
  · next hm => obtain ⟨c1, c2, -⟩ := digits2 mnc hm; simp [Plmn.Valid, *]
  · obtain ⟨c1, c2, c3, -⟩ := digits3 mnc h4; simp [Plmn.Valid, *]

theorem list_roundtrip (l : List SubList) (hw : ∀ s ∈ l, WFSubList s) :
    unmarshalList (marshalList l) = .ok (l.map normSubList) := by
  rw [unmarshalList, subListLoop_eq]
  exact walk_eof_flatMap marshalSubList normSubList rfl l fun s hs => parseSubList_marshal s (hw s hs)

theorem result_roundtrip (l : List SubResult) (hw : ∀ s ∈ l, WFSubResult s) :
    unmarshalResult (marshalResult l) = .ok (l.map normSubResult) := by
  rw [unmarshalResult, subResultLoop_eq]
  exact walk_eof_flatMap marshalSubResult normSubResult rfl l fun s hs => parseSubResult_marshal s (hw s hs)

/-- MANAGE UE POLICY COMMAND built through the API (message type 1 in header and body, `Len` = length of the list contents)
decodes to itself -/
theorem command_roundtrip (pti iei : UInt8) (buf : Bytes) (cm : Option Classmark) (h : buf.length < 65536) :
    (encodeMsg 1 (.command pti 1 iei (UInt16.ofNat buf.length) buf cm) >>= decodeMsg) =
      .ok (pti, 1, .command pti 1 iei (UInt16.ofNat buf.length) buf cm) := by
  cases cm <;>
  · simp only [encodeMsg, ↓reduceIte, Outcome.pure_eq, Outcome.bind_ok, List.cons_append, List.nil_append]
    rw [decodeMsg, if_pos rfl]
    simp only [readU8, Outcome.bind_ok, readIe_marshal _ _ _ h]
    rfl

theorem unknown_type_err (h0 h1 : UInt8) (rest : Bytes) (m : Msg) (h : ¬ (1 ≤ h1 ∧ h1 ≤ 6)) :
    decodeMsg (h0 :: h1 :: rest) = .err .unknown ∧ encodeMsg h1 m = .err .unknown := by
  have hn : h1 ≠ 1 ∧ h1 ≠ 2 ∧ h1 ≠ 3 ∧ h1 ≠ 4 ∧ h1 ≠ 5 ∧ h1 ≠ 6 := by
    refine ⟨?_, ?_, ?_, ?_, ?_, ?_⟩ <;> (intro he; subst he; exact h (by decide))
  obtain ⟨a, b, c, d, e, f⟩ := hn
  simp [decodeMsg, encodeMsg, a, b, c, d, e, f]

theorem buildSubList_ok (d : SubListD) (h : ValidSubListD d) :
    ∃ s, buildSubList d = .ok s ∧ WFSubList s ∧ normSubList s = expectSubList d := by
  obtain ⟨h1, h2, h3, h4, hi, hl⟩ := h
  obtain ⟨a, b, c, hs, ho, hn⟩ := setPlmnDigit_spec d.mcc d.mnc h1 h2 h3 h4
  refine ⟨_, buildSubList_fields d a b c hs, ⟨?_, ?_, ?_⟩, ?_⟩
  · exact List.forall_mem_map.mpr fun i hi' => wf_buildInstr i (hi i hi')
  · show 3 + ((d.instrs.map buildInstr).flatMap marshalInstr).length < 65536
    rw [marshal_buildInstrs d.instrs hi]; exact hl
  · show (plmnNumbers a b c).isSome = true
    rw [hn]; rfl
  · simp only [normSubList, expectSubList, hn, Option.getD_some, ← ho, List.getD_cons_zero, List.getD_cons_succ,
      marshal_buildInstrs d.instrs hi, List.map_map]
    congr 1
    exact List.map_congr_left fun x hx => norm_buildInstr x (hi x hx)

/-- a section-management list built through the API (constructors, `SetLen`, `SetUpsc`, `SetPartType`, `SetPartContent`,
`SetLen_byContent`, `SetPlmnDigit`, `Append…`): the script succeeds, and decoding the encoding of its result yields the described
structure (`expectSubList`) -/
theorem api_list_roundtrip (ds : List SubListD) (hv : ∀ d ∈ ds, ValidSubListD d) :
    ∃ l, buildList ds [] = .ok l ∧ unmarshalList (marshalList l) = .ok (ds.map expectSubList) := by
  obtain ⟨l, hl, hw, hn⟩ := buildAll_ok (loop := buildList) (fun _ => rfl) (fun _ _ _ => rfl) ds
    (fun d hd => buildSubList_ok d (hv d hd)) []
  refine ⟨l, by simpa using hl, ?_⟩
  rw [list_roundtrip l hw, hn]

/-- a `SetPlmnDigit` outside the accepted range aborts the script with an error (nothing is encoded) -/
theorem api_list_bad_plmn (d : SubListD) (ds : List SubListD) (acc : List SubList) (h : d.mcc < 99 ∨ d.mcc > 999 ∨ d.mnc < 9) :
    ∃ e, buildList (d :: ds) acc = .err e := by
  have he : setPlmnDigit d.mcc d.mnc = .err .other := by
    unfold setPlmnDigit
    split
    · rfl
    · rw [if_pos (by omega)]
  exact ⟨.other, by simp [buildList, buildSubList, SubList.setPlmnDigit, he]⟩

theorem buildSubResult_ok (d : SubResultD) (h : ValidSubResultD d) :
    ∃ s, buildSubResult d = .ok s ∧ WFSubResult s ∧ normSubResult s = expectSubResult d := by
  obtain ⟨h1, h2, h3, h4, hl⟩ := h
  obtain ⟨a, b, c, hs, ho, hn⟩ := setPlmnDigit_spec d.mcc d.mnc h1 h2 h3 h4
  refine ⟨_, buildSubResult_fields d a b c hs, ⟨?_, ?_⟩, ?_⟩
  · show 3 + ((d.results.map buildRes).flatMap marshalRes).length < 65536
    rw [flatMap_marshalRes_len, List.length_map]; exact hl
  · show (plmnNumbers a b c).isSome = true
    rw [hn]; rfl
  · simp only [normSubResult, expectSubResult, hn, Option.getD_some, ← ho, List.getD_cons_zero, List.getD_cons_succ,
      flatMap_marshalRes_len, List.length_map, List.map_map]
    rfl

/-- a section-management result built through the API (`NewResult`, `SetUpsc`, `AppendResult`, `SetPlmnDigit`,
`AppendSublist`): decoding its encoding yields the described structure, lengths from content, cause 0110 1111 -/
theorem api_result_roundtrip (ds : List SubResultD) (hv : ∀ d ∈ ds, ValidSubResultD d) :
    ∃ l, buildResult ds [] = .ok l ∧ unmarshalResult (marshalResult l) = .ok (ds.map expectSubResult) := by
  obtain ⟨l, hl, hw, hn⟩ := buildAll_ok (loop := buildResult) (fun _ => rfl) (fun _ _ _ => rfl) ds
    (fun d hd => buildSubResult_ok d (hv d hd)) []
  refine ⟨l, by simpa using hl, ?_⟩
  rw [result_roundtrip l hw, hn]

/-- MANAGE UE POLICY COMMAND / REJECT / COMPLETE built through the API decode to themselves, header included -/
theorem api_command_roundtrip (pti iei : UInt8) (contents : Bytes) (cm : Option (UInt8 × UInt8)) (h : contents.length < 65536)
    (hc : ∀ x, cm = some x → x.2 = 0 ∨ x.2 = 1) :
    ∃ m, buildCommand pti iei contents cm = .ok (1, m) ∧ (encodeMsg 1 m >>= decodeMsg) = .ok (pti, 1, m) ∧
      m = .command pti 1 iei (UInt16.ofNat contents.length) contents (cm.map fun x => ⟨x.1, 2, x.2, 0⟩) := by
  refine ⟨_, ?_, command_roundtrip pti iei contents _ h, rfl⟩
  cases cm with
  | none => rfl
  | some x =>
    obtain ⟨ci, n⟩ := x
    obtain rfl | rfl : n = 0 ∨ n = 1 := hc _ rfl <;> rfl

theorem api_reject_roundtrip (pti iei : UInt8) (contents : Bytes) (h : contents.length < 65536) :
    (encodeMsg (buildReject pti iei contents).1 (buildReject pti iei contents).2 >>= decodeMsg) =
      .ok (pti, 3, .reject pti 3 iei (UInt16.ofNat contents.length) contents) := by
  have := readIe_marshal iei contents [] h
  rw [List.append_nil] at this
  show decodeMsg (pti :: 3 :: iei :: (be16 (UInt16.ofNat contents.length) ++ contents)) = _
  rw [decodeMsg, if_neg (by decide), if_neg (by decide), if_pos rfl]
  simp only [readU8, Outcome.bind_ok, this, Outcome.pure_eq]

theorem api_complete_roundtrip (pti : UInt8) :
    (encodeMsg (buildComplete pti).1 (buildComplete pti).2 >>= decodeMsg) = .ok (pti, 2, .complete pti 2) :=
  rfl

theorem setNSSUI_domain (c : Classmark) (v : UInt8) : (∃ c', c.setNSSUI v = .ok c' ∧ c'.nssui = v) ↔ (v = 0 ∨ v = 1) := by
  unfold Classmark.setNSSUI
  by_cases h0 : v = 0
  · subst h0; simp
  · by_cases h1 : v = 1
    · subst h1; simp
    · simp [h0, h1]

def sl1 : SubList := ⟨0, 0x02, 0xf8, 0x39, 0, 0, [⟨0, 7, [⟨0, 1, [0xaa, 0xbb]⟩, ⟨0, 2, []⟩]⟩, ⟨0, 9, []⟩]⟩
example : marshalList [sl1] = [0, 19, 0x02, 0xf8, 0x39, 0, 10, 0, 7, 0, 3, 1, 0xaa, 0xbb, 0, 1, 2, 0, 2, 0, 9] := by decide
example : unmarshalList (marshalList [sl1]) = .ok [normSubList sl1] := by decide
example : (normSubList sl1).mcc = 208 ∧ (normSubList sl1).mnc = 93 := by decide
example : setPlmnDigit 208 93 = .ok (0x02, 0xf8, 0x39) := by decide
example : setPlmnDigit 310 260 = .ok (0x13, 0x00, 0x62) := by decide
example : (unmarshalList [0, 3, 0x0a, 0, 0]).isErr = true := by decide

def dl1 : SubListD := ⟨0, 208, 93, [⟨0, 7, [⟨0, false, 1, [0xaa, 0xbb]⟩, ⟨9, true, 2, []⟩]⟩, ⟨0, 9, []⟩]⟩
example : buildList [dl1] [] = .ok [⟨0, 0x02, 0xf8, 0x39, 208, 93, [⟨0, 7, [⟨0, 1, [0xaa, 0xbb]⟩, ⟨1, 2, []⟩]⟩, ⟨0, 9, []⟩]⟩] := by decide
example : (buildList [dl1] []).bind (fun l => unmarshalList (marshalList l)) = .ok [expectSubList dl1] := by decide
example : (buildResult [⟨0, 310, 260, [(5, 1)]⟩] []).bind (fun l => unmarshalResult (marshalResult l)) =
    .ok [⟨8, 0x13, 0x00, 0x62, 310, 260, [⟨5, 1, 0x6f⟩]⟩] := by decide

end NasVerif.Props.C18

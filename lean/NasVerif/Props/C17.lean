import NasVerif.Proofs.Gsm7Lemmas
/-!
# C17 — timers, bit rates, time zones and network names encode faithfully

Spec decoders (`decTimer2`, `decTimer3`, `unpackGsm7`) are written from TS 24.008 10.5.7.4 / 10.5.7.4a and TS 23.038.
Theorems are about the hand models of the Go helpers, tied to the code by the correspondence run.
-/
namespace NasVerif.Props.C17
open NasVerif.Model.Conv17 NasVerif.Spec.Gsm7 NasVerif.Proofs.Gsm7

/-- TS 24.008 Table 10.5.163: unit in bits 8..6, value in bits 5..1 -/
def decTimer2 (o : UInt8) : Nat :=
  let v := o.toNat % 32
  match o.toNat / 32 with
  | 0 => 2 * v | 1 => 60 * v | 2 => 360 * v | 7 => 0 | _ => 60 * v

/-- TS 24.008 Table 10.5.163a -/
def decTimer3 (o : UInt8) : Nat :=
  let v := o.toNat % 32
  match o.toNat / 32 with
  | 0 => 600 * v | 1 => 3600 * v | 2 => 36000 * v | 3 => 2 * v | 4 => 30 * v | 5 => 60 * v | 6 => 1152000 * v | _ => 0

/-- every duration representable as a GPRS timer 2 (k × 2 s, k × 1 min, k × 6 min, k ≤ 31) decodes to itself -/
theorem timer2_representable : ∀ k, k ≤ 31 →
    decTimer2 (gprsTimer2ToNas (2 * k)) = 2 * k ∧ decTimer2 (gprsTimer2ToNas (60 * k)) = 60 * k ∧
    decTimer2 (gprsTimer2ToNas (360 * k)) = 360 * k := by decide +kernel

theorem timer2_small : ∀ v, v ≤ 64 → decTimer2 (gprsTimer2ToNas v) ≤ v := by decide

/-- the minute branch, as a function of t = v / 60 -/
theorem timer2_minutes : ∀ t, t ≤ 186 →
    decTimer2 (if UInt8.ofNat t ≤ 31 then (0 ||| 0x20) + UInt8.ofNat t
      else if UInt8.ofNat t % 6 ≠ 0 then 0 else (0 ||| 0x40) + UInt8.ofNat t / 6) ≤ 60 * t := by decide +kernel

/-- within the representable range (0 … 11 160 s) no encoded timer 2 decodes to more than was requested -/
theorem timer2_never_more (v : Nat) (hv : v ≤ 11160) : decTimer2 (gprsTimer2ToNas v) ≤ v := by
  by_cases h : v ≤ 64
  · exact timer2_small v h
  · have := timer2_minutes (v / 60) (by omega)
    unfold gprsTimer2ToNas
    simp only [h, if_false]
    omega

/-- the encoder's six unit codes with their seconds (TS 24.008 Table 10.5.163a), each at every 5-bit value -/
theorem timer3_unit_value : ∀ cu ∈ [((0x03 : UInt8), 2), (0x04, 30), (0x05, 60), (0x00, 600), (0x01, 3600), (0x02, 36000)],
    ∀ t, t ≤ 31 → decTimer3 ((cu.1 <<< 5) + UInt8.ofNat t) = cu.2 * t := by decide +kernel

/-- what the encoder computes, for every duration up to 31 × 10 h: the largest multiple of the chosen unit not above it -/
theorem timer3_value (v : Nat) (hv : v ≤ 1116000) :
    decTimer3 (gprsTimer3ToNas v) =
      if v ≤ 62 then 2 * (v / 2) else if v ≤ 930 then 30 * (v / 30) else if v ≤ 1860 then 60 * (v / 60)
      else if v ≤ 18600 then 600 * (v / 600) else if v ≤ 111600 then 3600 * (v / 3600) else 36000 * (v / 36000) := by
  have hu := timer3_unit_value
  unfold gprsTimer3ToNas
  simp only [apply_ite decTimer3, Nat.reduceMul]
  -- both sides are ladders over the same conditions: compare them rung by rung
  refine ite_congr rfl (fun _ => hu (0x03, 2) (by decide) (v / 2) (by omega)) fun _ => ?_
  refine ite_congr rfl (fun _ => hu (0x04, 30) (by decide) (v / 30) (by omega)) fun _ => ?_
  refine ite_congr rfl (fun _ => hu (0x05, 60) (by decide) (v / 60) (by omega)) fun _ => ?_
  refine ite_congr rfl (fun _ => hu (0x00, 600) (by decide) (v / 600) (by omega)) fun _ => ?_
  exact ite_congr rfl (fun _ => hu (0x01, 3600) (by decide) (v / 3600) (by omega)) fun _ =>
    hu (0x02, 36000) (by decide) (v / 36000) (by omega)

/-- no encoded timer 3 decodes to more than was requested (0 … 1 116 000 s) -/
theorem timer3_never_more (v : Nat) (hv : v ≤ 1116000) : decTimer3 (gprsTimer3ToNas v) ≤ v := by
  have ite_le : ∀ {c : Prop} [Decidable c] {a b : Nat}, a ≤ v → b ≤ v → (if c then a else b) ≤ v := by
    intro c _ a b ha hb; split <;> assumption
  rw [timer3_value v hv]
  exact ite_le (Nat.mul_div_le v 2) (ite_le (Nat.mul_div_le v 30) (ite_le (Nat.mul_div_le v 60)
    (ite_le (Nat.mul_div_le v 600) (ite_le (Nat.mul_div_le v 3600) (Nat.mul_div_le v 36000)))))

/-- every duration representable as a GPRS timer 3 by the encoder's units decodes to itself -/
theorem timer3_representable (k : Nat) (hk : k ≤ 31) (u : Nat) (hu : u ∈ [2, 30, 60, 600, 3600, 36000]) :
    decTimer3 (gprsTimer3ToNas (u * k)) = u * k := by
  revert k u
  decide +kernel

def decimalValue (s : List Char) : Nat := s.foldl (fun a c => a * 10 + (c.toNat - 48)) 0
def IsNumeral (s : List Char) : Prop := s ≠ [] ∧ s.all Char.isDigit = true

theorem splitSpace_nospace (a r cur : List Char) (h : ' ' ∉ a) : splitSpace (a ++ r) cur = splitSpace r (a.reverse ++ cur) := by
  induction a generalizing cur with
  | nil => rfl
  | cons c cs ih =>
    simp only [List.mem_cons, not_or] at h
    rw [List.cons_append, splitSpace, if_neg (Ne.symm h.1), ih _ h.2, List.reverse_cons, List.append_assoc]; rfl

/-- unit codes of TS 24.501 Table 9.11.4.14.1 -/
theorem unit_codes : strToAMBRUnit "Kbps".toList = 0x01 ∧ strToAMBRUnit "Mbps".toList = 0x06 ∧
    strToAMBRUnit "Gbps".toList = 0x0B ∧ strToAMBRUnit "Tbps".toList = 0x10 ∧ strToAMBRUnit "Pbps".toList = 0x15 := by decide

theorem parseUint16_numeral (s : List Char) (hn : IsNumeral s) (hv : decimalValue s ≤ 65535) :
    parseUint16 s = some (decimalValue s) := by
  rw [decimalValue] at hv ⊢
  simp [parseUint16, hn.1, hn.2, hv]

/-- a bit rate given as a decimal numeral ≤ 65535 followed by a space and a unit is encoded with exactly that 16-bit value
(big endian) and the unit's code -/
theorem ambr_side (num unit : List Char) (hn : IsNumeral num) (hv : decimalValue num ≤ 65535) (hu : ' ' ∉ unit) :
    ambrSide (num ++ ' ' :: unit) =
      .ok (UInt8.ofNat (decimalValue num / 256), UInt8.ofNat (decimalValue num), strToAMBRUnit unit) := by
  have hsp : ' ' ∉ num := fun hm => absurd (List.all_eq_true.mp hn.2 _ hm) (by decide)
  have hs : splitSpace (num ++ ' ' :: unit) [] = [num, unit] := by
    rw [splitSpace_nospace num _ [] hsp, splitSpace, if_pos rfl, ← List.append_nil unit, splitSpace_nospace unit [] [] hu,
      splitSpace]
    simp
  simp only [ambrSide, hs, parseUint16_numeral num hn hv]

/-- values above 32767 included -/
example : ambrSide "40000 Mbps".toList = .ok (0x9c, 0x40, 0x06) := by decide
example : modelsToSessionAMBR "65535 Pbps".toList "1 Kbps".toList = .ok [0x01, 0x00, 0x01, 0x15, 0xff, 0xff] := by decide +kernel

def d2 (n : Nat) : List Char := [Char.ofNat (48 + n / 10), Char.ofNat (48 + n % 10)]

/-- the text form "±HH:MM" [+d] -/
def tzText (neg : Bool) (h m dst : Nat) : List Char :=
  [if neg then '-' else '+'] ++ d2 h ++ [':'] ++ d2 m ++ (if dst = 0 then [] else ['+', Char.ofNat (48 + dst)])

/-- for every zone on the quarter-hour grid (|zone| ≤ 19:45) and daylight saving adjustment 0, +1, +2 whose sum is
representable (≤ 79 quarters), the encoded octet decodes to zone + adjustment -/
theorem timezone_roundtrip : ∀ neg : Bool, ∀ h : Nat, h < 20 → ∀ q : Nat, q < 4 → ∀ dst : Nat, dst < 3 →
    let total : Int := (if neg then -1 else 1) * ((h * 4 + q : Nat) : Int) + ((dst : Nat) : Int) * 4
    total.natAbs ≤ 79 →
    (parseTimeZoneToNas (tzText neg h (15 * q) dst)).bind (fun o => .ok (getTimeZoneOffset o)) = .ok (total * 900) := by
  decide +kernel

theorem dst_roundtrip : ∀ dst : Nat, dst < 3 → ∀ neg : Bool,
    (dstValue (tzText neg 5 0 dst)).bind (fun v => .ok (decodeDst v)) =
      .ok (if dst = 0 then "" else if dst = 1 then "+1" else "+2") := by decide

/-- the decoder on one octet: 28 quarter hours with the sign bit set -/
example : decodeLocalTimeZone 0x8a = "-07:00" := by decide

/-! ## universal time: each two-digit field (year mod 100, month, day, hour, minute, second) round-trips -/

theorem field_roundtrip : ∀ x, x < 100 → decField (encField x) = x := by decide +kernel

/-- the spare-bit count that goes into octet 0 of the IE, for every name length -/
theorem name_header (name : List UInt8) :
    (packGsm7Bit name).2 = (8 - (7 * name.length) % 8) % 8 ∧ (packGsm7Bit name).2 < 8 :=
  ⟨rfl, Nat.mod_lt _ (by decide)⟩

/-- every name of 7-bit characters, of any length, unpacks (by the TS 23.038 rule) to itself, and occupies ⌈7n/8⌉ octets -/
theorem name_roundtrip (name : List UInt8) (h : ∀ c ∈ name, c < 128) :
    unpackGsm7 (packGsm7Bit name).1 name.length = name ∧ (packGsm7Bit name).1.length = (7 * name.length + 7) / 8 := by
  have hcs : ∀ c ∈ name, c.toNat < 128 := fun c hc => UInt8.lt_iff_toNat_lt.mp (h c hc)
  have h0 : PInv 0 [] := by simp [PInv, leValue]
  obtain ⟨⟨_, hlen⟩, hval⟩ := packLoop_spec name 0 [] hcs h0
  simp only [Nat.zero_add, leValue, Nat.mul_zero, Nat.pow_zero, Nat.one_mul] at hlen hval
  refine ⟨?_, by simp only [packGsm7Bit]; omega⟩
  apply List.ext_getElem
  · simp [unpackGsm7]
  · intro k hk1 hk2
    simp only [unpackGsm7, packGsm7Bit, List.getElem_map, List.getElem_range, hval]
    rw [digit_extract name hcs k hk2, UInt8.ofNat_toNat]

def ascii (s : String) : List UInt8 := s.toList.map (fun c => UInt8.ofNat c.toNat)

/-- instances of `name_roundtrip`: every 1-character name, and names of 7, 8, 9, 10 and 16 characters (8 and 16 end on an
octet boundary, 7 and 9 lie next to one) -/
theorem name_roundtrip_examples :
    (∀ a, a < 128 → unpackGsm7 (packGsm7Bit [UInt8.ofNat a]).1 1 = [UInt8.ofNat a]) ∧
    (∀ n ∈ ["free5GC", "abcdefgh", "abcdefghi", "abcdefghij", "abcdefghijklmnop"],
      unpackGsm7 (packGsm7Bit (ascii n)).1 n.length = ascii n ∧ (packGsm7Bit (ascii n)).1.length = (7 * n.length + 7) / 8) := by
  decide +kernel

end NasVerif.Props.C17

import NasVerif.Props.Codec
import NasVerif.Codec.Alloc
/-! # C01 — decoding arbitrary bytes never panics, hangs or over-allocates -/
namespace NasVerif.Props.C01
open NasVerif.Codec NasVerif.Props.Codec

/-- `PlainNasDecode` returns a message or an error for every input, including nil and empty -/
theorem plainDecode_total (inp : Option Bytes) :
    (∃ m, plainDecode Model.top inp = .ok m) ∨ (∃ e, plainDecode Model.top inp = .err e) := by
  have := (plainDecode_post Model.top top_wf inp).ne_panic
  cases h : plainDecode Model.top inp <;> simp_all

/-- `GmmMessageDecode` never panics on any byte string -/
theorem gmmDecode_no_panic (bs : Bytes) : famDecode Model.top.msgs Model.top.gmm bs ≠ .panic := by
  obtain ⟨hm, _, hg, _⟩ := (Top.wf_iff _).1 top_wf
  exact (famDecode_post _ hm _ hg bs).ne_panic

/-- `GsmMessageDecode` never panics on any byte string -/
theorem gsmDecode_no_panic (bs : Bytes) : famDecode Model.top.msgs Model.top.gsm bs ≠ .panic := by
  obtain ⟨hm, _, _, hs, _⟩ := (Top.wf_iff _).1 top_wf
  exact (famDecode_post _ hm _ hs bs).ne_panic

/-- every one of the 45 `Decode<Msg>` functions, called directly, never panics -/
theorem msgDecode_no_panic (name : String) (e : MsgEntry) (h : findMsg Model.top.msgs name = some e) (bs : Bytes) :
    decode e.dec bs ≠ .panic :=
  decode_no_panic _ (entry_wf name e h) _

/-- termination: the optional-element loop makes progress on every iteration, so its result does not depend on
the fuel once the fuel covers the remaining input (the model's fuel is not what makes it terminate) -/
theorem loop_terminates (name : String) (e : MsgEntry) (_h : findMsg Model.top.msgs name = some e)
    (fuel : Nat) (bs : Bytes) (s : Slots) (hf : bs.length ≤ fuel) :
    decLoop e.dec.opt fuel bs s = decLoop e.dec.opt bs.length bs s :=
  decLoop_fuel_irrel _ _ _ _ _ hf (Nat.le_refl _)

/-- on the tables regenerated on this run: no optional element's struct is larger than 47 octets (`go/types` sizes, amd64) -/
theorem opt_struct_sizes : ∀ e ∈ Model.top.msgs, maxOptSize e.dec ≤ 47 := by decide

/-- allocation: for each of the 45 decoders and every input, the octets requested while decoding — every `make` of `SetLen`
(also the one that precedes a truncation error: `Codec/Alloc.lean`) and the struct of every optional element met — are at most
48 · |input| plus one maximum-size element (65 535 octets) -/
theorem decode_alloc_bound (name : String) (e : MsgEntry) (h : findMsg Model.top.msgs name = some e) (bs : Bytes) :
    allocDecode e.dec bs ≤ 48 * bs.length + 65535 := by
  have h1 := allocDecode_le e.dec bs
  have h2 := opt_struct_sizes e (findMsg_mem h)
  have : (maxOptSize e.dec + 1) * bs.length ≤ 48 * bs.length := Nat.mul_le_mul_right _ (by omega)
  omega

/-- non-vacuity of the bound's second term: a declared 65 535-octet element with nothing behind it does request 64 KiB -/
example : allocDecode Gen.dec_DLNASTransport [0x7e, 0x00, 0x68, 0x01, 0xff, 0xff] = 65535 := by decide

/-- non-vacuity: a real table and a real input reach the loop and an optional element -/
example : decode Gen.dec_RegistrationReject [0x7e, 0x00, 0x44, 0x01, 0x16, 0x01, 0xaa]
    = .ok ⟨[⟨0,0,[0x7e]⟩, ⟨0,0,[0x00]⟩, ⟨0,0,[0x44]⟩, ⟨0,0,[0x01]⟩], [none, some ⟨0x16, 1, [0xaa]⟩, none]⟩ := by decide

end NasVerif.Props.C01

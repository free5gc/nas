import NasVerif.Props.Codec
import NasVerif.Codec.SpecTheorems
import NasVerif.Spec.Tables
/-! # C04 — wire format of every message matches the TS 24.501 message tables -/
namespace NasVerif.Props.C04
open NasVerif.Codec NasVerif.Props.Codec

/-- read in TS vocabulary (format, identifier, admissible lengths), the 45 tables extracted from the 90 generated
functions on this run are the pinned TS 24.501 tables -/
theorem tables_match :
    (Model.top.msgs.map (fun e => (e.name, e.dec.toSpec)) == Spec.tables) = true :=
  beq_iff_eq.mpr rfl

/-- and each storage class realises its format (the abstraction to TS vocabulary loses nothing) -/
theorem all_specOK : Model.top.msgs.all (fun e => e.dec.specOK) = true := by decide +kernel

theorem entry_specOK (name : String) (e : MsgEntry) (h : findMsg Model.top.msgs name = some e) : e.dec.specOK = true :=
  List.all_eq_true.mp all_specOK e (findMsg_mem h)

/-- the encoder emits exactly: header octets and mandatory elements in table order in V/LV/LV-E form, then each present
optional element in table order with its identifier in T/TV/TLV/TLV-E framing (`Spec.render`, TS 24.007 §11.2) -/
theorem encoder_layout (name : String) (e : MsgEntry) (h : findMsg Model.top.msgs name = some e)
    (m : MsgVal) (hm : WFVal e.dec m) :
    encode e.dec m = .ok (Spec.render e.dec.toSpec (toMVal e.dec m)) :=
  encode_layout e.dec (entry_specOK name e h) m hm

/-- the decoder accepts exactly the byte strings `Spec.decode` accepts, and yields the same field values. `Spec.decode` is the
same loop restated over the tables in TS vocabulary (optional elements in any order, last duplicate wins, unknown octets skipped,
lengths within bounds), so what this adds to `tables_match` is that reading a table in that vocabulary loses nothing the decoder
depends on. -/
theorem decoder_agrees (name : String) (e : MsgEntry) (h : findMsg Model.top.msgs name = some e) (bs : Bytes) :
    Spec.decode e.dec.toSpec bs = (match decode e.dec bs with | .ok m => some (toMVal e.dec m) | _ => none) :=
  decode_agree e.dec (entry_specOK name e h) bs

/-- everything else — truncated input, out-of-bounds lengths — is rejected with an error (not accepted, not a panic) -/
theorem decoder_rejects (name : String) (e : MsgEntry) (h : findMsg Model.top.msgs name = some e) (bs : Bytes)
    (hr : Spec.decode e.dec.toSpec bs = none) : ∃ er, decode e.dec bs = .err er :=
  decode_rejects e.dec (entry_specOK name e h) bs hr

/-- statically: all 90 generated encode/decode functions (and the helper methods they rely on) were recognised -/
theorem all_functions_recognised : Gen.unrecognisedCodec = [] ∧ Model.top.msgs.length = 45 :=
  ⟨translator_total, rfl⟩

/-- non-vacuity: truncation inside an element and an out-of-bounds length are rejected by the table-driven decoder;
a reordered + duplicated input is accepted -/
example : Spec.decode Spec.msg_RegistrationReject [0x7e, 0x00, 0x44, 0x01, 0x16, 0x01] = none := by decide
example : Spec.decode Spec.msg_RegistrationReject [0x7e, 0x00, 0x44, 0x01, 0x16, 0x02, 0, 0] = none := by decide
example : (Spec.decode Spec.msg_RegistrationReject [0x7e, 0x00, 0x44, 0x01, 0x16, 0x01, 7, 0x5f, 0x01, 9, 0x16, 0x01, 8]).map (·.opt)
    = some [some ⟨0x5f, 1, [9]⟩, some ⟨0x16, 1, [8]⟩, none] := by decide

end NasVerif.Props.C04

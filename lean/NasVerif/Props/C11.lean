import NasVerif.Gen.Counter
import NasVerif.Spec.CounterCanon
import NasVerif.Gen.Unrecognised
import NasVerif.Proofs.Bits
/-!
# C11 — NAS COUNT behaves as a 24-bit overflow‖sequence-number counter

All theorems are about the canonical definitions `Spec.CounterCanon`; `Props/C11Tie.lean` proves on every run that the
definitions regenerated from `/repo/security/counter.go` (`NasVerif.Gen.Counter`) are equal to them.
-/
namespace NasVerif.Props.C11
open NasVerif.Spec.CounterCanon NasVerif.Bits

theorem translator_total : NasVerif.Gen.unrecognisedCounter = [] := rfl
/-- the seven API methods of `security.Count` are all translated on this run (helpers may come and go) -/
theorem methods_covered :
    ["AddOne", "Get", "Overflow", "SQN", "Set", "SetOverflow", "SetSQN"].all (NasVerif.Gen.Counter.methods.contains ·) = true := by
  decide

def Inv (c : BitVec 32) : Prop := c.toNat < 2^24

inductive Op
  | set (o : BitVec 16) (s : BitVec 8) | setSQN (s : BitVec 8) | setOverflow (o : BitVec 16)
  | addOne | get | sqn | overflow

def step (c : BitVec 32) : Op → BitVec 32
  | .set o s => (Set c o s).1
  | .setSQN s => (SetSQN c s).1
  | .setOverflow o => (SetOverflow c o).1
  | .addOne => (AddOne c).1
  | .get => (Get c).1
  | .sqn => (SQN c).1
  | .overflow => (Overflow c).1

def run (ops : List Op) (c : BitVec 32) : BitVec 32 := ops.foldl step c

/-! The counter is two bit fields, sequence number (bits 0–7) and overflow (bits 8–23), below eight clear bits; the
methods of `counter.go` read and write them with literal masks and shifts. Everything else follows from `Bits`. -/

theorem sqnClearMask_eq : (4294967040#32) = ~~~ (lowMask 32 8) := rfl

theorem sqn_eq (c : BitVec 32) : (SQN c).2 = getField c 0 8 := rfl
theorem overflow_eq (c : BitVec 32) : (Overflow c).2 = getField c 8 16 := rfl
-- not `rfl` as for `setOverflow_eq`: `<<< 0` on a variable does not reduce away
theorem setSQN_eq (c : BitVec 32) (s : BitVec 8) : (SetSQN c s).1 = setField c 0 8 s := by simp [SetSQN, setField, sqnClearMask_eq]
theorem setOverflow_eq (c : BitVec 32) (o : BitVec 16) : (SetOverflow c o).1 = setField c 8 16 o := rfl
theorem addOne_eq (c : BitVec 32) : (AddOne c).1 = (Get (c + 1#32)).2 := rfl
theorem set_eq (c : BitVec 32) (o : BitVec 16) (s : BitVec 8) : (Set c o s).1 = (SetSQN (SetOverflow c o).1 s).1 := rfl
theorem get_toNat (c : BitVec 32) : (Get c).2.toNat = c.toNat % 2^24 := toNat_and_lowMask 32 24 (by omega) c
theorem inv_iff (c : BitVec 32) : Inv c ↔ getField c 24 8 = 0#8 := by
  rw [← BitVec.toNat_inj, toNat_getField]
  have := c.isLt
  simp only [Inv, BitVec.toNat_ofNat]
  omega

theorem sqn_toNat (c : BitVec 32) : (SQN c).2.toNat = c.toNat % 256 := by rw [sqn_eq, toNat_getField]; simp
theorem overflow_toNat (c : BitVec 32) : (Overflow c).2.toNat = c.toNat / 256 % 65536 := by rw [overflow_eq, toNat_getField]

/-- the value always equals overflow × 256 + sequence number -/
theorem value_decomposition (c : BitVec 32) :
    (Get c).2.toNat = (Overflow c).2.toNat * 256 + (SQN c).2.toNat := by
  rw [sqn_toNat, overflow_toNat, get_toNat]
  omega

theorem get_lt (c : BitVec 32) : (Get c).2.toNat < 2^24 := by
  rw [get_toNat]; omega

/-- reads do not change the value -/
theorem get_pure (c : BitVec 32) (h : Inv c) : (Get c).1 = c ∧ (Get c).2 = c := by
  have : (Get c).2 = c := BitVec.eq_of_toNat_eq (by rw [get_toNat]; unfold Inv at h; omega)
  exact ⟨this, this⟩
theorem sqn_pure (c : BitVec 32) : (SQN c).1 = c := rfl
theorem overflow_pure (c : BitVec 32) : (Overflow c).1 = c := rfl

theorem addOne_spec (c : BitVec 32) (h : Inv c) : (AddOne c).1.toNat = (c.toNat + 1) % 2^24 := by
  rw [addOne_eq, get_toNat, BitVec.toNat_add, BitVec.toNat_ofNat]
  omega

/-- sequence number 255 rolls to 0 and carries into the overflow part (which wraps at 2^16) -/
theorem addOne_carry (c : BitVec 32) (h : Inv c) :
    ((SQN c).2.toNat = 255 →
      (SQN (AddOne c).1).2.toNat = 0 ∧ (Overflow (AddOne c).1).2.toNat = ((Overflow c).2.toNat + 1) % 65536) ∧
    ((SQN c).2.toNat ≠ 255 →
      (SQN (AddOne c).1).2.toNat = (SQN c).2.toNat + 1 ∧ (Overflow (AddOne c).1).2.toNat = (Overflow c).2.toNat) := by
  simp only [sqn_toNat, overflow_toNat, addOne_spec c h]
  omega

/-- setting the sequence number: new SQN is the argument, overflow part unchanged -/
theorem setSQN_spec (c : BitVec 32) (s : BitVec 8) :
    (SQN (SetSQN c s).1).2 = s ∧ (Overflow (SetSQN c s).1).2 = (Overflow c).2 := by
  rw [sqn_eq, overflow_eq, overflow_eq, setSQN_eq]
  exact ⟨getField_setField _ _ _ _ (by omega), getField_setField_of_disjoint _ _ _ _ _ _ (by omega)⟩

/-- setting the overflow part: new overflow is the argument, sequence number unchanged -/
theorem setOverflow_spec (c : BitVec 32) (o : BitVec 16) :
    (Overflow (SetOverflow c o).1).2 = o ∧ (SQN (SetOverflow c o).1).2 = (SQN c).2 := by
  rw [sqn_eq, sqn_eq, overflow_eq, setOverflow_eq]
  exact ⟨getField_setField _ _ _ _ (by omega), getField_setField_of_disjoint _ _ _ _ _ _ (by omega)⟩

theorem set_spec (c : BitVec 32) (o : BitVec 16) (s : BitVec 8) :
    (Overflow (Set c o s).1).2 = o ∧ (SQN (Set c o s).1).2 = s := by
  obtain ⟨hov, -⟩ := setOverflow_spec c o
  obtain ⟨hsqn, hkept⟩ := setSQN_spec (SetOverflow c o).1 s
  rw [set_eq]
  exact ⟨hkept.trans hov, hsqn⟩

theorem inv_setSQN (c : BitVec 32) (s : BitVec 8) (h : Inv c) : Inv (SetSQN c s).1 := by
  rw [inv_iff] at *
  rwa [setSQN_eq, getField_setField_of_disjoint _ _ _ _ _ _ (by omega)]

theorem inv_setOverflow (c : BitVec 32) (o : BitVec 16) (h : Inv c) : Inv (SetOverflow c o).1 := by
  rw [inv_iff] at *
  rwa [setOverflow_eq, getField_setField_of_disjoint _ _ _ _ _ _ (by omega)]

theorem inv_addOne (c : BitVec 32) : Inv (AddOne c).1 := by
  rw [addOne_eq]; exact get_lt (c + 1#32)

theorem inv_set (c : BitVec 32) (o : BitVec 16) (s : BitVec 8) (h : Inv c) : Inv (Set c o s).1 := by
  rw [set_eq]; exact inv_setSQN _ s (inv_setOverflow c o h)

theorem set_toNat (c : BitVec 32) (o : BitVec 16) (s : BitVec 8) (h : Inv c) :
    (Set c o s).1.toNat = o.toNat * 256 + s.toNat := by
  have hinv := inv_set c o s h
  have hd := value_decomposition (Set c o s).1
  obtain ⟨hov, hsqn⟩ := set_spec c o s
  rwa [hov, hsqn, (get_pure _ hinv).2] at hd

theorem inv_step (c : BitVec 32) (op : Op) (h : Inv c) : Inv (step c op) := by
  cases op with
  | set o s => exact inv_set c o s h
  | setSQN s => exact inv_setSQN c s h
  | setOverflow o => exact inv_setOverflow c o h
  | addOne => exact inv_addOne c
  | get => rw [step, (get_pure c h).1]; exact h
  | sqn => exact h
  | overflow => exact h

theorem inv_init : Inv 0#32 := by unfold Inv; decide

/-- every state reachable from a fresh counter by any operation sequence is below 2^24 -/
theorem inv_reachable (ops : List Op) : Inv (run ops 0#32) := by
  suffices ∀ c, Inv c → Inv (run ops c) from this _ inv_init
  induction ops with
  | nil => intro c h; exact h
  | cons op ops ih => intro c h; exact ih _ (inv_step c op h)

/-- and every one of the 2^24 values is reachable (so the theorems above are about all of them) -/
theorem all_reachable (n : Nat) (h : n < 2^24) : ∃ ops, (run ops 0#32).toNat = n := by
  refine ⟨[.set (BitVec.ofNat 16 (n / 256)) (BitVec.ofNat 8 (n % 256))], ?_⟩
  show (Set 0#32 _ _).1.toNat = n
  rw [set_toNat _ _ _ inv_init, BitVec.toNat_ofNat, BitVec.toNat_ofNat]
  omega

/-- non-vacuity: the wrap-around state is reachable and wraps to 0 -/
example : (run [.set 0xffff#16 0xff#8, .addOne] 0#32) = 0#32 := by decide

end NasVerif.Props.C11

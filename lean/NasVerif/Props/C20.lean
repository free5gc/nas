import NasVerif.Model.IdGen
/-!
# C20 — the policy-section ID allocator never hands out a live or out-of-range ID

Theorems about the model of `IDGenerator` (tied to the Go code by the correspondence run over operation histories),
for every operation sequence from `NewGenerator(min, max)` with `min ≤ max`.
-/
namespace NasVerif.Props.C20
open NasVerif.Model.IdGen

theorem wrap_eq (R b k : Nat) (hb : b < R) (hk1 : 0 < k) (hk : k ≤ R) (h : (b + k) % R = b) : k = R := by
  rcases Nat.lt_or_ge (b + k) R with hlt | hge
  · rw [Nat.mod_eq_of_lt hlt] at h; omega
  · have h2 : b + k - R < R := by omega
    rw [Nat.mod_eq_sub_mod hge, Nat.mod_eq_of_lt h2] at h
    omega

theorem step_mod (R start j : Nat) : ((start + j) % R + 1) % R = (start + (j + 1)) % R := by
  rw [Nat.add_mod, Nat.mod_mod, ← Nat.add_mod]; rfl

structure Inv (g : Gen) : Prop where
  pos  : 0 < g.R
  off  : g.offset < g.R
  used : ∀ o ∈ g.used, o < g.R
  nd   : g.used.Nodup

theorem scan_some (R : Nat) (used : List Nat) (stop : Nat → Bool) (hR : 0 < R) :
    ∀ f off o, off < R → scan R used stop f off = some o → o ∉ used ∧ o < R := by
  intro f
  induction f with
  | zero => intro off o _ h; simp [scan] at h
  | succ f ih =>
    intro off o hoff h
    simp only [scan] at h
    split at h
    · split at h
      · cases h
      · exact ih _ _ (Nat.mod_lt _ hR) h
    · next hfree => obtain rfl := Option.some.inj h; exact ⟨hfree, hoff⟩

theorem scan_free (R : Nat) (used : List Nat) (stop : Nat → Bool) (f off : Nat) (hf : 0 < f) (h : off ∉ used) :
    scan R used stop f off = some off := by
  obtain ⟨f, rfl⟩ : ∃ f', f = f' + 1 := ⟨f - 1, by omega⟩
  rw [scan, if_neg h]

/-- `Allocate`'s scan, given fuel for the rest of the cycle, returns the first free offset in cyclic order -/
theorem scan_eq_find (R : Nat) (used : List Nat) (start : Nat) (hs : start < R) :
    ∀ n j f, n = R - j → j < R → n ≤ f →
      scan R used (· == start) f ((start + j) % R) =
        ((List.range' j n).map (fun i => (start + i) % R)).find? (· ∉ used) := by
  intro n
  induction n with
  | zero => intro j f hn hj; omega
  | succ n ih =>
    intro j f hn hj hf
    obtain ⟨f, rfl⟩ : ∃ f', f = f' + 1 := ⟨f - 1, by omega⟩
    simp only [scan, List.range'_succ, List.map_cons, List.find?_cons, step_mod]
    by_cases hin : (start + j) % R ∈ used
    · simp only [hin, if_true, not_true, decide_false]
      by_cases hj1 : j + 1 = R
      · simp [hj1, Nat.mod_eq_of_lt hs, show n = 0 by omega]
      · have hne : ¬ (start + (j + 1)) % R = start := fun he => hj1 (wrap_eq R start _ hs (by omega) (by omega) he)
        simp only [beq_iff_eq, hne, if_false]
        exact ih (j + 1) f (by omega) (by omega) (by omega)
    · simp [hin]

/-- fuel adequacy: from position `start + j` the scan needs at most `R - j` steps, whatever extra fuel it has -/
theorem scan_fuel (R : Nat) (used : List Nat) (start : Nat) (hs : start < R) :
    ∀ n j f1 f2, n = R - j → j < R → R - j ≤ f1 → R - j ≤ f2 →
      scan R used (· == start) f1 ((start + j) % R) = scan R used (· == start) f2 ((start + j) % R) := by
  intro n j f1 f2 hn hj h1 h2
  rw [scan_eq_find R used start hs n j f1 hn hj (hn ▸ h1), scan_eq_find R used start hs n j f2 hn hj (hn ▸ h2)]

theorem scan_none (R : Nat) (used : List Nat) (start : Nat) (hs : start < R)
    (h : scan R used (· == start) R start = none) : ∀ o, o < R → o ∈ used := by
  have h0 := scan_eq_find R used start hs R 0 R rfl (by omega) (Nat.le_refl _)
  rw [Nat.add_zero, Nat.mod_eq_of_lt hs, h, eq_comm] at h0
  simp only [List.find?_eq_none, List.mem_map, List.mem_range'_1, decide_eq_true_eq, Decidable.not_not,
    forall_exists_index, and_imp] at h0
  intro o ho
  -- `o` is the element of the list at `o`'s distance from `start` round the cycle
  refine h0 o ((o + R - start) % R) (by omega) (by have := Nat.mod_lt (o + R - start) (show 0 < R by omega); omega) ?_
  rw [Nat.add_mod, Nat.mod_mod, ← Nat.add_mod, show start + (o + R - start) = o + R by omega, Nat.add_mod_right,
    Nat.mod_eq_of_lt ho]

theorem inv_new (minV maxV : Int) (h : minV ≤ maxV) : Inv (newGen minV maxV) := by
  have hR : 0 < (newGen minV maxV).R := by simp only [newGen]; omega
  exact ⟨hR, hR, fun _ ho => absurd ho List.not_mem_nil, List.nodup_nil⟩

theorem maxV_eq (g : Gen) : g.maxV = g.minV + (g.R : Int) - 1 := rfl

theorem mem_live (g : Gen) (id : Int) : id ∈ live g ↔ g.minV ≤ id ∧ (id - g.minV).toNat ∈ g.used := by
  simp only [live, List.mem_map]
  constructor
  · rintro ⟨o, ho, rfl⟩
    exact ⟨by omega, by simpa using ho⟩
  · exact fun ⟨h1, h2⟩ => ⟨_, h2, by omega⟩

/-- what a successful allocation from `g` guarantees -/
structure Allocated (g g' : Gen) (id : Int) : Prop where
  ge      : g.minV ≤ id
  le      : id ≤ g.maxV
  fresh   : id ∉ live g
  live_eq : live g' = id :: live g
  inv     : Inv g'
  minV_eq : g'.minV = g.minV
  R_eq    : g'.R = g.R

/-- handing out the identifier at a free offset, as both `Allocate` and `Allocate_inRange` do -/
theorem take_spec (g : Gen) (h : Inv g) (off : Nat) (hno : off ∉ g.used) (hlt : off < g.R) :
    Allocated g (take g off).1 (take g off).2 where
  ge := by simp only [take]; omega
  le := by simp only [take, maxV_eq]; omega
  fresh := by rw [mem_live]; simp [take, hno]
  live_eq := by simp [live, take]
  inv := ⟨h.pos, Nat.mod_lt _ h.pos, by simpa [take] using ⟨hlt, h.used⟩, by simpa [take] using ⟨hno, h.nd⟩⟩
  minV_eq := rfl
  R_eq := rfl

/-- **Allocate, success**: the id is within the configured bounds, was not live, becomes live, nothing else changes -/
theorem alloc_ok (g g' : Gen) (id : Int) (h : Inv g) (ha : alloc g = (g', some id)) : Allocated g g' id := by
  unfold alloc at ha
  split at ha <;> cases ha
  next off hsc =>
  obtain ⟨hno, hlt⟩ := scan_some g.R g.used _ h.pos _ _ _ h.off hsc
  exact take_spec g h off hno hlt

/-- **Allocate_inRange, success** (non-negative arguments): same guarantees -/
theorem allocIn_ok (g g' : Gen) (mn mx : Nat) (id : Int) (h : Inv g) (ha : allocIn g mn mx = (g', some id)) :
    Allocated g g' id := by
  simp only [allocIn] at ha
  split at ha <;> cases ha
  next off hsc =>
  obtain ⟨hno, hlt⟩ := scan_some g.R g.used _ h.pos _ _ _ (Nat.mod_lt _ h.pos) hsc
  exact take_spec g h off hno hlt

/-- **Allocate, failure**: only when every identifier of the range is live; the state is unchanged -/
theorem alloc_fail (g g' : Gen) (h : Inv g) (ha : alloc g = (g', none)) :
    g' = g ∧ ∀ id, g.minV ≤ id → id ≤ g.maxV → id ∈ live g := by
  unfold alloc at ha
  split at ha <;> cases ha
  next hsc =>
  refine ⟨rfl, fun id h1 h2 => (mem_live g id).mpr ⟨h1, scan_none g.R g.used g.offset h.off hsc _ ?_⟩⟩
  rw [maxV_eq] at h2; omega

/-- conversely, plain allocation succeeds whenever some identifier is free -/
theorem alloc_succeeds (g : Gen) (h : Inv g) (o : Nat) (ho : o < g.R) (hfree : o ∉ g.used) :
    ∃ g' id, alloc g = (g', some id) := by
  unfold alloc
  split
  · exact ⟨_, _, rfl⟩
  · next hsc => exact absurd (scan_none g.R g.used g.offset h.off hsc o ho) hfree

theorem scanStop_lt (R : Nat) (used : List Nat) (stop : Nat → Bool) (hR : 0 < R) :
    ∀ f off, off < R → scanStop R used stop f off < R := by
  intro f
  induction f with
  | zero => intro off h; exact h
  | succ f ih =>
    intro off h
    simp only [scanStop]
    split; split
    · exact Nat.mod_lt _ hR
    · exact ih _ (Nat.mod_lt _ hR)
    · exact h

/-- **Allocate_inRange, failure**: live set unchanged -/
theorem allocIn_fail (g g' : Gen) (mn mx : Nat) (h : Inv g) (ha : allocIn g mn mx = (g', none)) :
    live g' = live g ∧ Inv g' ∧ g'.minV = g.minV ∧ g'.R = g.R := by
  simp only [allocIn] at ha
  split at ha <;> cases ha
  exact ⟨rfl, ⟨h.pos, scanStop_lt _ _ _ h.pos _ _ (Nat.mod_lt _ h.pos), h.used, h.nd⟩, rfl, rfl⟩

/-- **FreeID**: an in-range id leaves the live set (and only it); an out-of-range id is a no-op -/
theorem free_spec (g : Gen) (id : Int) (h : Inv g) :
    Inv (free g id) ∧ (free g id).minV = g.minV ∧ (free g id).R = g.R ∧
    (∀ x, x ∈ live (free g id) ↔ x ∈ live g ∧ x ≠ id) := by
  unfold free
  split
  · next hr =>
    refine ⟨h, rfl, rfl, fun x => ⟨fun hx => ⟨hx, ?_⟩, fun hx => hx.1⟩⟩
    rintro rfl
    obtain ⟨h1, h2⟩ := (mem_live g x).mp hx
    have := h.used _ h2
    rw [maxV_eq] at hr; omega
  · refine ⟨⟨h.pos, h.off, fun o ho => h.used o (List.mem_of_mem_erase ho), h.nd.erase _⟩, rfl, rfl, fun x => ?_⟩
    simp only [mem_live, h.nd.mem_erase_iff]
    constructor
    · exact fun ⟨h1, h2, h3⟩ => ⟨⟨h1, h3⟩, fun he => h2 (he ▸ rfl)⟩
    · exact fun ⟨⟨h1, h3⟩, hne⟩ => ⟨h1, fun he => hne (by omega), h3⟩

theorem free_not_used (g : Gen) (id : Int) (h : Inv g) (h1 : g.minV ≤ id) : (id - g.minV).toNat ∉ (free g id).used := by
  unfold free
  split
  · next hr =>
    intro hu
    have := h.used _ hu
    rw [maxV_eq] at hr; omega
  · exact fun hu => (h.nd.mem_erase_iff.mp hu).1 rfl

/-- a freed identifier is allocatable again: a range allocation aimed at it returns it at once … -/
theorem freed_allocatable (g : Gen) (id : Int) (h : Inv g) (h1 : g.minV ≤ id) (h2 : id ≤ g.maxV) (mx : Nat) :
    ∃ g', allocIn (free g id) (id - g.minV).toNat mx = (g', some id) := by
  obtain ⟨-, hm, hR, -⟩ := free_spec g id h
  have hlt : (id - g.minV).toNat < g.R := by rw [maxV_eq] at h2; omega
  refine ⟨(take (free g id) (id - g.minV).toNat).1, ?_⟩
  rw [allocIn, hR, Nat.mod_eq_of_lt hlt, scan_free _ _ _ _ _ h.pos (free_not_used g id h h1)]
  -- what is left is that the identifier at that offset is `id`
  simp only [take, hm]
  congr 2
  omega

/-- … and plain allocation succeeds afterwards (it can fail only when everything is live) -/
theorem freed_then_alloc_succeeds (g : Gen) (id : Int) (h : Inv g) (h1 : g.minV ≤ id) (h2 : id ≤ g.maxV) :
    ∃ g' id', alloc (free g id) = (g', some id') := by
  obtain ⟨hi, -, hR, -⟩ := free_spec g id h
  exact alloc_succeeds (free g id) hi (id - g.minV).toNat (by rw [hR, maxV_eq] at *; omega) (free_not_used g id h h1)

/-- what a history may return: each id in bounds and different from every id live at that moment -/
def Safe (minV maxV : Int) : Gen → List Op → Prop
  | _, [] => True
  | g, op :: ops =>
    (∀ id, (step g op).2 = some id → minV ≤ id ∧ id ≤ maxV ∧ id ∉ live g) ∧ Safe minV maxV (step g op).1 ops

theorem step_inv (g : Gen) (op : Op) (h : Inv g) :
    Inv (step g op).1 ∧ (step g op).1.minV = g.minV ∧ (step g op).1.R = g.R ∧
    (∀ id, (step g op).2 = some id → g.minV ≤ id ∧ id ≤ g.maxV ∧ id ∉ live g) := by
  cases op with
  | alloc =>
    match ha : alloc g with
    | (g', some id) =>
      have a := alloc_ok g g' id h ha
      simpa [step, ha] using ⟨a.inv, a.minV_eq, a.R_eq, a.ge, a.le, a.fresh⟩
    | (g', none) => simpa [step, ha, (alloc_fail g g' h ha).1] using h
  | allocIn mn mx =>
    match ha : allocIn g mn mx with
    | (g', some id) =>
      have a := allocIn_ok g g' mn mx id h ha
      simpa [step, ha] using ⟨a.inv, a.minV_eq, a.R_eq, a.ge, a.le, a.fresh⟩
    | (g', none) => simpa [step, ha] using (allocIn_fail g g' mn mx h ha).2
  | free id =>
    obtain ⟨hi, hm, hR, -⟩ := free_spec g id h
    simpa [step] using ⟨hi, hm, hR⟩

theorem safe_of_inv (ops : List Op) : ∀ (g : Gen), Inv g → Safe g.minV g.maxV g ops := by
  induction ops with
  | nil => intro g _; trivial
  | cons op ops ih =>
    intro g h
    obtain ⟨hi, hm, hR, hid⟩ := step_inv g op h
    have := ih _ hi
    rw [maxV_eq, hm, hR, ← maxV_eq] at this
    exact ⟨hid, this⟩

/-- **C20**: for every sequence of allocate / allocate-in-range / free operations on `NewGenerator(min, max)`, each returned
identifier lies within [min, max] and differs from every identifier allocated and not yet freed -/
theorem allocator_safe (minV maxV : Int) (h : minV ≤ maxV) (ops : List Op) :
    Safe minV maxV (newGen minV maxV) ops := by
  have := safe_of_inv ops _ (inv_new minV maxV h)
  rwa [show (newGen minV maxV).maxV = maxV by simp [newGen, Gen.maxV]; omega] at this

/-- non-vacuity: exhaustion, free, wrap-around of the scan offset on the range [1, 3] -/
example : ((([Op.alloc, .alloc, .alloc, .alloc, .free 2, .alloc].foldl
    (fun (st : Gen × List (Option Int)) op => ((step st.1 op).1, st.2 ++ [(step st.1 op).2])) (newGen 1 3, [])).2)
    = [some 1, some 2, some 3, none, none, some 2]) := by decide

end NasVerif.Props.C20

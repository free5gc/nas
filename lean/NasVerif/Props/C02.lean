import NasVerif.Props.Codec
/-! # C02 — encoding then decoding a well-formed message returns the same message -/
namespace NasVerif.Props.C02
open NasVerif.Codec NasVerif.Props.Codec

/-- through `PlainNasEncode` / `PlainNasDecode`, for all 44 dispatchable types -/
theorem plain_roundtrip (m : NasMsg) (hm : WFNas Model.top m) :
    ∃ bs, plainEncode Model.top m = .ok bs ∧ plainDecode Model.top (some bs) = .ok m :=
  Codec.plain_roundtrip Model.top top_wf m hm

/-- through `Encode<Msg>` / `Decode<Msg>` directly, for all 45 tables (incl. the security-protected envelope) -/
theorem msg_roundtrip (name : String) (e : MsgEntry) (h : findMsg Model.top.msgs name = some e)
    (v : MsgVal) (hv : WFVal e.dec v) : ∃ bs, encode e.dec v = .ok bs ∧ decode e.dec bs = .ok v :=
  roundtrip _ (entry_wf name e h) v hv

/-- the envelope is one of the tables -/
example : ∃ e, findMsg Model.top.msgs "SecurityProtected5GSNASMessage" = some e :=
  Option.isSome_iff_exists.mp (by decide +kernel)

/-- non-vacuity: a concrete well-formed Registration Reject with one optional element -/
example : WFVal Gen.dec_RegistrationReject
    ⟨[⟨0,0,[0x7e]⟩, ⟨0,0,[0x00]⟩, ⟨0,0,[0x44]⟩, ⟨0,0,[0x01]⟩], [none, some ⟨0x16, 1, [0xaa]⟩, none]⟩ := by
  simp [WFVal, WFMan, WFSlots, OptValOK, ValOK, Gen.dec_RegistrationReject, Guard.ok, lenLimit]

end NasVerif.Props.C02

import NasVerif.Model.Convert
import NasVerif.Proofs.NoPanic
/-!
# C14 — helpers that interpret UE-supplied IE contents never panic or hang

For every helper of the property's list the model (`Model/Convert.lean`) uses checked indexing and fuel-bounded
loops whose exhaustion is `panic`; the theorems below say that for **every** byte string (resp. every text) the
outcome is a value or an error, never `panic` — hence also that each loop finishes within its fuel.
The tie to the Go code is the correspondence run (`conv` ops) plus the panic/hang oracle on the real functions.

A theorem `g_total` is the property for `g`, the model of a Go function: a helper of the list or one that helpers call. On the loop
of such a function, which runs on fuel (`reqNssaiLoop`, `ladnLoop`, `dnnLoop`), `g_total` states that the fuel the model supplies
suffices: started at any offset with more fuel than there are octets left, the loop neither runs out of it nor indexes out of range.
A theorem `np_g…` is about a fragment `g` that takes no fuel and is no Go function of its own: a piece the model shares between
helpers (`miIs` is one, under the name `miIs_total`), or the counted loop `psiBits`.
-/
namespace NasVerif.Props.C14
open NasVerif.Model.Convert

/-! `chop1` and `lastByte` are the two helpers of `Model/Convert.lean` that can panic by themselves: their rules are primitive
rules like those of `idx`, `slice` and `sliceFrom`, and stand here because `Model/Convert.lean` does not know `NoPanic`. -/

@[np_simp]
theorem np_chop1_iff {s : Bytes} : NoPanic (chop1 s) ↔ 0 < s.length := by
  unfold chop1; simp only [np_simp]; omega

@[np_simp]
theorem np_chop1_bind {β} {s : Bytes} {f : Bytes → Outcome β} :
    NoPanic (chop1 s >>= f) ↔ 0 < s.length ∧ NoPanic (f s.dropLast) := by
  cases s with
  | nil => simp [chop1, np_simp]
  | cons a r => simp [chop1_eq]

@[np_simp]
theorem np_lastByte_iff {s : Bytes} : NoPanic (lastByte s) ↔ 0 < s.length := by
  unfold lastByte; simp only [np_simp]; omega

@[np_simp]
theorem np_lastByte_bind {β} {s : Bytes} {f : UInt8 → Outcome β} :
    NoPanic (lastByte s >>= f) ↔ 0 < s.length ∧ NoPanic (f (s.getD (s.length - 1) 0)) := by
  cases s <;> simp [lastByte, np_simp]

@[np_simp]
theorem np_mccText (a b : UInt8) : NoPanic (mccText a b) := by unfold mccText; simp [np_simp]

@[np_simp]
theorem np_mncText (a b : UInt8) : NoPanic (mncText a b) := by unfold mncText; simp [np_simp]

@[np_simp]
theorem np_routingText (a b : UInt8) : NoPanic (routingText a b) := by
  unfold routingText; dsimp only
  split
  · next i h => exact np_slice_iff.mpr ⟨Nat.zero_le _, Nat.le_of_lt (indexByte_le h)⟩
  · exact np_ok _

/-- the null scheme strips a trailing filler from the last character, so it needs a non-empty scheme output -/
@[np_simp]
theorem np_schemeOutputText_iff (s : UInt8) (tail : Bytes) :
    NoPanic (schemeOutputText s tail) ↔ (fmtHex8 s = ascii "0" → 0 < tail.length) := by
  unfold schemeOutputText
  split
  · next h0 =>
    simp only [np_simp, imp_iff_right h0]
    -- `lastByte` needs a character, of which there are two per octet of `tail`; `chop1` then asks for no more
    rw [and_iff_left_of_imp fun h _ => h]; omega
  · next h => simp only [np_simp, h]

@[np_simp]
theorem np_peiDigitText_iff (buf : Bytes) : NoPanic (peiDigitText buf) ↔ 0 < buf.length := by
  unfold peiDigitText; simp only [np_simp, peiDigits_length, List.length_dropLast]; omega

@[np_simp]
theorem naiToString_total (buf : Bytes) : NoPanic (naiToString buf) := by
  unfold naiToString; simp only [np_simp]; omega

theorem suciToString_total (buf : Bytes) : NoPanic (suciToString buf) := by
  unfold suciToString; simp only [np_simp]; omega

theorem plmnIDToString_post {b : Bytes} (h : 3 ≤ b.length) : (plmnIDToString b).Post fun s => s.length = 5 ∨ s.length = 6 := by
  rw [plmnIDToString, idx_ok (by omega), idx_ok (by omega), idx_ok (by omega)]
  simp only [Outcome.bind_ok, hexEnc, idx_cons_succ, idx_cons_zero]
  split
  · rw [slice_zero (by simp)]; simp
  · simp

theorem gutiToString_total (buf : Bytes) : NoPanic (gutiToString buf) := by
  unfold gutiToString; simp only [np_simp]
  intro _
  have hp := plmnIDToString_post (b := (buf.take 4).drop 1) (by simp; omega)
  exact ⟨by omega, hp.noPanic, fun plmn e => by have := hp.of_ok e; omega⟩

theorem peiToString_total (buf : Bytes) : NoPanic (peiToString buf) := by
  unfold peiToString; simp only [np_simp]; omega

theorem amfIdToNas_total (s : Bytes) : NoPanic (amfIdToNas s) := by
  unfold amfIdToNas; split
  · exact np_err _
  · simp only [np_simp]; omega

@[np_simp]
theorem np_atoiAt_iff {s : Bytes} {i : Nat} : NoPanic (atoiAt s i) ↔ i < s.length := by
  unfold atoiAt; simp only [np_simp]
  exact and_iff_left (by split <;> simp only [np_simp])

theorem gutiToNas_total (g : Bytes) : NoPanic (gutiToNas g) := by
  unfold gutiToNas
  split
  · exact np_err _
  · -- the length is 19 or 20, which covers every index and slice bound below
    iterate 5 refine np_bind (np_atoiAt_iff.mpr (by omega)) fun _ _ => ?_
    refine np_bind (by simp only [np_simp]; omega) fun ⟨mnc3, amfS, tmsiS⟩ _ => ?_
    refine np_bind (amfIdToNas_total amfS) fun ⟨region, set, ptr⟩ _ => ?_
    dsimp only
    split <;> simp only [np_simp]

theorem snssaiToModels_total (l : UInt8) (buf : Bytes) : NoPanic (snssaiToModels l buf) := by
  -- `← UInt8.toNat_inj` turns the tests `l = 4` into `l.toNat = 4`, for `omega` to meet with `buf.length < l.toNat + 1`
  unfold snssaiToModels; simp only [np_simp, ← UInt8.toNat_inj, UInt8.reduceToNat]; omega

theorem snssaiToModels_ok_len {l : UInt8} {buf : Bytes} {m : MappedSnssai} (h : snssaiToModels l buf = .ok m) :
    l = 1 ∨ l = 2 ∨ l = 4 ∨ l = 5 ∨ l = 8 := by
  refine Decidable.byContradiction fun hn => ?_
  simp only [not_or] at hn
  obtain ⟨h1, h2, h4, h5, h8⟩ := hn
  unfold snssaiToModels at h
  rw [if_neg h1, if_neg h2, if_neg h4, if_neg h5, if_neg h8] at h
  split at h <;> cases h

theorem reqNssaiLoop_total (fuel len : Nat) (buf : Bytes) (off : Nat) (acc : List MappedSnssai)
    (hlen : len ≤ buf.length) (hf : len < fuel + off) (hpos : 0 < fuel) : NoPanic (reqNssaiLoop fuel len buf off acc) := by
  induction fuel generalizing off acc with
  | zero => omega
  | succ n ih =>
    unfold reqNssaiLoop
    split
    · refine np_bind (np_idx_iff.mpr (by omega)) fun l _ => ?_
      refine np_bind (np_sliceFrom_iff.mpr (by omega)) fun tail _ => ?_
      refine np_bind (snssaiToModels_total l tail) fun m hm => ?_
      -- progress: the offset grows by `l + 1`, which does not wrap
      have := snssaiLen_succ (snssaiToModels_ok_len hm)
      apply ih <;> omega
    · exact np_ok _

/-- `RequestedNssaiToModels` on a decoded IE (`Len` = length of `Buffer`): terminates without panic -/
theorem requestedNssaiToModels_total (buf : Bytes) : NoPanic (requestedNssaiToModels buf.length buf) := by
  unfold requestedNssaiToModels
  exact reqNssaiLoop_total _ _ _ _ _ (Nat.le_refl _) (by omega) (by omega)

theorem ladnLoop_total (fuel : Nat) (buf : Bytes) (off : Nat) (acc : List Bytes)
    (hf : buf.length < fuel + off) (hpos : 0 < fuel) : NoPanic (ladnLoop fuel buf off acc) := by
  induction fuel generalizing off acc with
  | zero => omega
  | succ n ih =>
    unfold ladnLoop
    split
    · refine np_bind (np_idx_iff.mpr (by omega)) fun l _ => ?_
      split
      · exact np_ok _
      · refine np_bind (np_slice_iff.mpr (by omega)) fun d _ => ?_
        apply ih <;> omega
    · exact np_ok _

theorem ladnToModels_total (buf : Bytes) : NoPanic (ladnToModels buf) := by
  unfold ladnToModels; exact ladnLoop_total _ _ _ _ (by omega) (by omega)

theorem ueSecCapToByteArray_total (buf : Bytes) : NoPanic (ueSecCapToByteArray buf) := by
  unfold ueSecCapToByteArray; simp only [np_simp]; omega

theorem np_psiBits (n i : Nat) (buf : Bytes) (h : i + n ≤ 8 * buf.length) : NoPanic (psiBits n i buf) := by
  induction n generalizing i with
  | zero => exact np_ok _
  | succ k ih =>
    unfold psiBits
    refine np_bind (np_idx_iff.mpr (by omega)) fun _ _ => np_bind (ih (i + 1) (by omega)) fun _ _ => np_ok _

theorem psiToBooleanArray_total (buf : Bytes) : NoPanic (psiToBooleanArray buf) := by
  unfold psiToBooleanArray
  split
  · exact np_ok _
  · exact np_psiBits _ _ _ (by omega)

theorem upuAckToModels_total (buf : Bytes) : NoPanic (upuAckToModels buf) := by
  unfold upuAckToModels; simp only [np_simp]; omega

theorem dnnLoop_total (fuel : Nat) (rest acc : Bytes) (hf : rest.length < fuel) : NoPanic (dnnLoop fuel rest acc) := by
  induction fuel generalizing rest acc with
  | zero => omega
  | succ n ih =>
    unfold dnnLoop
    split
    · exact np_ok _
    · next l r =>
      apply ih
      simp at hf ⊢; omega

theorem getDNN_total (buf : Bytes) : NoPanic (getDNN buf) := by
  unfold getDNN
  refine np_bind (dnnLoop_total _ _ _ (by omega)) fun f _ => ?_
  split
  · exact np_ok _
  · next h => exact np_chop1_iff.mpr (List.length_pos_iff.mpr h)

theorem miType_total (buf : Bytes) : NoPanic (miType buf) := by unfold miType; simp only [np_simp]; omega

@[np_simp]
theorem miIs_total (buf : Bytes) (x : IdType) : NoPanic (miIs buf x) := by
  unfold miIs
  cases h : miType buf with
  | panic => exact absurd h (miType_total buf)
  | _ => exact np_ok _

@[np_simp]
theorem miMCC_total (buf : Bytes) : NoPanic (miMCC buf) := by unfold miMCC; simp only [np_simp]; omega

@[np_simp]
theorem miMNC_total (buf : Bytes) : NoPanic (miMNC buf) := by unfold miMNC; simp only [np_simp]; omega

theorem miPlmnID_total (buf : Bytes) : NoPanic (miPlmnID buf) := by unfold miPlmnID; simp only [np_simp]

/- `GetSUCI`, `GetIMEI` and `GetIMEISV` index octet 1 once the identity type has been read: on empty contents the type test fails
and they return the empty text (the case `nil` of the next three). -/
theorem miSUCI_total (buf : Bytes) : NoPanic (miSUCI buf) := by
  cases buf with
  | nil => exact np_ok []
  | cons b r => unfold miSUCI miNai; simp only [np_simp, List.length_cons]; omega

theorem miIMEI_total (buf : Bytes) : NoPanic (miIMEI buf) := by
  cases buf with
  | nil => exact np_ok []
  | cons b r => unfold miIMEI; simp only [np_simp, List.length_cons]; omega

theorem miIMEISV_total (buf : Bytes) : NoPanic (miIMEISV buf) := by
  cases buf with
  | nil => exact np_ok []
  | cons b r => unfold miIMEISV; simp only [np_simp, List.length_cons]; omega

@[np_simp]
theorem miAmfID_total (buf : Bytes) : NoPanic (miAmfID buf) := by unfold miAmfID; simp only [np_simp]; omega

theorem miAmfRegionID_total (buf : Bytes) : NoPanic (miAmfRegionID buf) := by
  unfold miAmfRegionID; simp only [np_simp]; omega

/- In the next three the four binders are the two results of `miIs`, which the continuation mentions, each with its equation. -/
theorem miAmfSetID_total (buf : Bytes) : NoPanic (miAmfSetID buf) := by
  unfold miAmfSetID; simp only [np_simp]; intro _ _ _ _; omega

theorem miAmfPointer_total (buf : Bytes) : NoPanic (miAmfPointer buf) := by
  unfold miAmfPointer; simp only [np_simp]; intro _ _ _ _; omega

@[np_simp]
theorem mi5GTMSI_total (buf : Bytes) : NoPanic (mi5GTMSI buf) := by
  unfold mi5GTMSI; simp only [np_simp]; intro _ _ _ _; omega

theorem mi5GGUTI_total (buf : Bytes) : NoPanic (mi5GGUTI buf) := by unfold mi5GGUTI; simp only [np_simp]

theorem mi5GSTMSI_total (buf : Bytes) : NoPanic (mi5GSTMSI buf) := by
  unfold mi5GSTMSI; simp only [np_simp]; omega

theorem miMobileIdentity_total (buf : Bytes) : NoPanic (miMobileIdentity buf) := by
  unfold miMobileIdentity
  cases h : miType buf with
  | err e => exact np_err e
  | panic => exact absurd h (miType_total buf)
  | ok t =>
    refine np_bind ?_ fun _ _ => np_ok _
    cases t
    · exact miSUCI_total buf
    · exact mi5GGUTI_total buf
    · exact miIMEI_total buf
    · exact mi5GTMSI_total buf
    · exact miIMEISV_total buf

/-! ## non-vacuity: an index out of range is a `panic` of this model, and the accepting paths of four helpers are reachable -/

example : idx ([] : Bytes) 0 = .panic := by decide
example : (suciToString [0x01, 0x02, 0xf8, 0x39, 0xf0, 0xff, 0x00, 0x00, 0x00, 0x00, 0x47, 0x78]).isOk = true := by decide
example : (requestedNssaiToModels 7 [1, 1, 4, 1, 1, 2, 3]).isOk = true := by decide
example : ladnToModels [2, 97, 98, 1, 99] = .ok [[97, 98], [99]] := by decide
example : getDNN [3, 97, 98, 99, 2, 100, 101] = .ok (ascii "abc.de") := by decide

end NasVerif.Props.C14

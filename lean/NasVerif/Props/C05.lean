import NasVerif.Props.Codec
/-! # C05 — dispatch on protocol discriminator and message type is exact -/
namespace NasVerif.Props.C05
open NasVerif.Codec NasVerif.Props.Codec

theorem nil_rejected : ∃ e, plainDecode Model.top none = .err e := ⟨_, rfl⟩
theorem empty_rejected : ∃ e, plainDecode Model.top (some []) = .err e := ⟨_, rfl⟩

/-- a first octet other than 0x7E / 0x2E is an error -/
theorem unknown_epd_rejected (b : UInt8) (rest : Bytes) (h1 : b.toNat ≠ 0x7e) (h2 : b.toNat ≠ 0x2e) :
    plainDecode Model.top (some (b :: rest)) = .err .unknown :=
  plainDecode_unknown_epd Model.top b rest h1 h2

/-- inputs shorter than the family's header are an error -/
theorem short_rejected_gmm (bs : Bytes) (h : bs.length < 3) : famDecode Model.top.msgs Model.top.gmm bs = .err .trunc :=
  famDecode_short _ _ bs h
theorem short_rejected_gsm (bs : Bytes) (h : bs.length < 4) : famDecode Model.top.msgs Model.top.gsm bs = .err .trunc :=
  famDecode_short _ _ bs h

/-- a message type not in the family's table is an error -/
theorem unknown_type_rejected (dp : Dispatch) (bs : Bytes) (hl : ¬ bs.length < dp.headerLen)
    (h : lookupType dp.decode ((bs.take dp.headerLen).getD dp.typeIndex 0).toNat = none) :
    famDecode Model.top.msgs dp bs = .err .unknown := by
  rw [famDecode_eq, if_neg hl, h]

/-- a successful decode returns a `WFNas` message: one family, holding the body that the regenerated switch names for the
message type octet, every element of it well formed, the header view equal to the body's own header octets. That there is one
family and one body is how the model builds its result (`Family.bodies` is a list, `famDecode` returns a singleton), not something
the theorem rules out of a richer type. -/
theorem decode_exact (inp : Option Bytes) (m : NasMsg) (h : plainDecode Model.top inp = .ok m) :
    WFNas Model.top m :=
  (plainDecode_post Model.top top_wf inp).of_ok h

/-- encoding: no body at all is an error -/
theorem encode_no_body : ∃ e, plainEncode Model.top ⟨none, none⟩ = .err e := ⟨_, rfl⟩

/-- encoding: a message type that is not in the table is an error (whatever bodies are set) -/
theorem encode_unknown_type (dp : Dispatch) (f : Family)
    (h : lookupType dp.encode (f.header.getD dp.typeIndex 0).toNat = none) :
    famEncode Model.top.msgs dp f = .err .unknown := by
  simp only [famEncode, h]

/-- encoding dispatches symmetrically: a known type with its body present runs that body's encoder -/
theorem encode_dispatch (dp : Dispatch) (f : Family) (name : String) (v : MsgVal) (e : MsgEntry)
    (h : lookupType dp.encode (f.header.getD dp.typeIndex 0).toNat = some name)
    (hb : f.bodies.lookup name = some v) (he : findMsg Model.top.msgs name = some e) :
    famEncode Model.top.msgs dp f = encode e.dec v := by
  simp only [famEncode, h, hb, he]

/-- the 44 dispatchable types (28 + 16), and the decode and encode switches agree -/
example : Gen.dispatch_gmm.decode.length = 28 ∧ Gen.dispatch_gsm.decode.length = 16 ∧
    Gen.dispatch_gmm.decode = Gen.dispatch_gmm.encode ∧ Gen.dispatch_gsm.decode = Gen.dispatch_gsm.encode :=
  ⟨rfl, rfl, rfl, rfl⟩

end NasVerif.Props.C05

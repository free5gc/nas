import NasVerif.Proofs.ListLemmas
import NasVerif.Props.C12
/-!
# C13 — slice and area lists encode to the specified layout and decode back

`Spec/Lists.lean` holds decoders written from the TS 24.501 figures (S-NSSAI 9.11.2.8, NSSAI 9.11.3.37, rejected NSSAI
9.11.3.46, TAI list 9.11.3.9, service area list 9.11.3.49, LADN 9.11.3.29/30). The theorems say that those independent
decoders recover exactly the lists the library encoded — for every SST/SD, every list length the property names, one or
several PLMNs — and that the library's own NSSAI decoder *is* the specification decoder on every byte string (so
malformed lengths are errors), and its LADN-indication decoder recovers every well-formed list.
The library side is the models of `Model/Convert.lean`. The values and one-entry encoders in which the theorems are stated
(`SnssaiV`, `TaiV`, `encRej`, `encDnn`) and `Agrees` are defined at the head of `Proofs/ListLemmas.lean`.
-/
namespace NasVerif.Props.C13
open NasVerif.Model.Convert NasVerif.Spec.Lists NasVerif.Spec.Identity NasVerif.Proofs.Identity NasVerif.Proofs.Lists NasVerif.Props.C12

/-- `SnssaiToNas` output (SST with or without a 24-bit SD) is read back by the specification decoder, whatever follows -/
theorem snssaiToNas_layout (v : SnssaiV) (r : Bytes) : decSnssaiLV (v.enc ++ r) = some (v.toMapped, r) := by
  obtain ⟨sst, _ | ⟨a, b, c⟩⟩ := v
  · simp [SnssaiV.enc, SnssaiV.sdText, snssaiToNas, decSnssaiLV, SnssaiV.toMapped, SnssaiV.toSnssai]
  · simp [SnssaiV.enc, SnssaiV.sdText, snssaiToNas, hexText_ne_nil, sdBytes_hexText, decSnssaiLV, SnssaiV.toMapped, SnssaiV.toSnssai]

/-- `SnssaiToModels` on the S-NSSAI IE carrying `v` returns `v` -/
theorem snssaiIe_roundtrip (v : SnssaiV) (pad : Bytes) :
    snssaiIeToModels (v.enc.getD 0 0) (v.enc.drop 1 ++ pad) = v.toSnssai := by
  obtain ⟨sst, _ | ⟨a, b, c⟩⟩ := v
  · simp [SnssaiV.enc, SnssaiV.sdText, snssaiToNas, snssaiIeToModels, SnssaiV.toSnssai]
  · simp [SnssaiV.enc, SnssaiV.sdText, snssaiToNas, hexText_ne_nil, sdBytes_hexText, snssaiIeToModels, SnssaiV.toSnssai]

/-- `RequestedNssaiToModels` on a decoded IE (Len = length of Buffer) decodes exactly what the specification decoder does,
and reports everything else (reserved length octets, truncated elements) as an error -/
theorem requestedNssai_spec (buf : Bytes) :
    Agrees (requestedNssaiToModels buf.length buf) (decNssai buf.length buf) := by
  simpa [requestedNssaiToModels] using
    reqNssaiLoop_spec buf.length (buf.length + 1) buf 0 [] (by omega) (by omega) (by omega)

/-- `RequestedNssaiToModels` recovers every list of S-NSSAIs encoded by `SnssaiToNas`, of any length -/
theorem requestedNssai_roundtrip (l : List SnssaiV) :
    requestedNssaiToModels (l.flatMap SnssaiV.enc).length (l.flatMap SnssaiV.enc) = .ok (l.map SnssaiV.toMapped) := by
  have hd : decNssai _ (l.flatMap SnssaiV.enc) = some (l.map SnssaiV.toMapped) :=
    dec_flatMap (fun n => by cases n <;> rfl) l fun v _ _ r => decNssai_succ (snssaiToNas_layout v r)
  simpa only [hd, agrees_some] using requestedNssai_spec (l.flatMap SnssaiV.enc)

/-- `LadnToModels` recovers every well-formed LADN indication (a sequence of complete (length, DNN) entries) exactly -/
theorem ladnToModels_spec (buf : Bytes) (l : List Bytes) (h : decLadnInd buf.length buf = some l) :
    ladnToModels buf = .ok l := by
  simpa [ladnToModels] using ladnLoop_spec buf.length (buf.length + 1) buf 0 [] l (by omega) (by omega) (by simpa using h)

/-- every list of DNNs (each at most 255 octets) written as an LADN indication is recovered by `LadnToModels` -/
theorem ladn_indication_roundtrip (l : List Bytes) (hl : ∀ d ∈ l, d.length < 256) :
    ladnToModels (l.flatMap encDnn) = .ok l :=
  ladnToModels_spec _ _ (ladnInd_enc_dec l hl)

/-- TAI list (9.11.3.9): for 1..16 identities over one PLMN (type 00) or several (type 10), the specification decoder
recovers exactly the input list -/
theorem taiList_enc_dec (l : List TaiV) (h1 : 1 ≤ l.length) (h16 : l.length ≤ 16) (hv : ∀ t ∈ l, t.plmn.Valid) :
    ∃ w, taiListToNas (l.map TaiV.toModel) = .ok w ∧ decTaiList w = some (l.map TaiV.toOctets) := by
  match l, h1 with
  | t0 :: r, _ =>
    have hk : r.length < 16 := Nat.lt_of_succ_le h16
    have hp0 := text_to_plmn t0.plmn (hv t0 (by simp))
    unfold taiListToNas
    simp only [List.map_cons, List.length_cons, List.length_map]
    split
    · next hmixed =>
      -- several PLMNs: type of list 10, a (PLMN, TAC) pair per element
      obtain ⟨hspare, htype, hcount⟩ := tai_header 2 (.inr rfl) r.length hk
      obtain ⟨body, hb, ht⟩ := taiBodyMixed_spec (t0 :: r) fun t ht => text_to_plmn t.plmn (hv t ht)
      simp only [List.map_cons, List.length_cons] at hb ht
      refine ⟨_, by rw [hb]; rfl, ?_⟩
      -- `decTaiList` tests the spare bit, then for type 00, then for type 10
      simp only [decTaiList, hspare, hcount]
      rw [if_neg (by decide : ¬ (0 : UInt8) ≠ 0), htype, if_neg (by decide : ¬ (2 : UInt8) = 0), if_pos rfl, ht]
    · next hsame =>
      -- one PLMN: type of list 00, the PLMN once and then the TACs
      obtain ⟨hspare, htype, hcount⟩ := tai_header 0 (.inl rfl) r.length hk
      -- `hsame`: every entry has the first entry's MCC and MNC text, hence its octets
      have hall : ∀ t ∈ r, t.plmn.octets = t0.plmn.octets := by
        intro t ht
        simp only [List.any_eq_true, List.mem_cons, List.mem_map, decide_eq_true_eq, not_exists, not_and, not_or,
          Decidable.not_not] at hsame
        obtain ⟨hmcc, hmnc⟩ := hsame (TaiV.toModel t) (Or.inr ⟨t, ht, rfl⟩)
        exact plmn_octets_of_text (hv t (by simp [ht])) (hv t0 (by simp)) hmcc hmnc
      have hbody := taiBodySame_spec (t0 :: r) t0.plmn.octets (by simpa using hall)
      simp only [List.map_cons, List.length_cons] at hbody
      obtain ⟨x, y, z, hxyz⟩ := plmn_octets3 t0.plmn
      have henc : plmnIDToNas (TaiV.toModel t0).mcc (TaiV.toModel t0).mnc = .ok t0.plmn.octets := hp0
      refine ⟨_, by rw [henc]; rfl, ?_⟩
      rw [hxyz] at hbody ⊢
      simp only [decTaiList, List.cons_append, List.nil_append, hspare, hcount]
      rw [if_neg (by decide : ¬ (0 : UInt8) ≠ 0), htype, if_pos rfl, hbody]

/-- service area list (9.11.3.49, type of list 00): for 1..16 TACs the specification decoder recovers the allowed type,
the PLMN and exactly the TACs -/
theorem serviceArea_enc_dec (p : Plmn) (hv : p.Valid) (allowed : Bool) (l : List (UInt8 × UInt8 × UInt8))
    (h1 : 1 ≤ l.length) (h16 : l.length ≤ 16) :
    ∃ w, partialServiceAreaListToNas p.mccText p.mncText allowed (l.map fun (a, b, c) => hexText [a, b, c]) = .ok w ∧
      decServiceArea w = some (!allowed, l.map fun (a, b, c) => ⟨p.octets, [a, b, c]⟩) := by
  have hp := text_to_plmn p hv
  obtain ⟨htype, hcount, hallowed⟩ := sarea_header (l.length - 1) (by omega) allowed
  obtain ⟨x, y, z, hxyz⟩ := plmn_octets3 p
  unfold partialServiceAreaListToNas
  simp only [tacsOf_spec, hp, Outcome.bind_ok, Outcome.pure_eq, if_pos (show l.length > 0 by omega)]
  refine ⟨_, rfl, ?_⟩
  rw [hxyz]
  simp only [decServiceArea, List.cons_append, List.nil_append, htype, if_true, hcount, hallowed,
    show l.length - 1 + 1 = l.length by omega, takeTacs_flat, Option.map_some]

/-- rejected NSSAI (9.11.3.46): the specification decoder recovers every S-NSSAI with its cause (0 = not available in the
current PLMN, 1 = not available in the current registration area), as long as the contents fit the one-octet length -/
theorem rejectedNssai_enc_dec (inPlmn inTa : List SnssaiV)
    (hfit : ((inPlmn.map (·, 0) ++ inTa.map (·, 1)).flatMap encRej).length ≤ 255) :
    let (len, buf) := rejectedNssaiToNas (inPlmn.map fun v => (v.sst, v.sdText)) (inTa.map fun v => (v.sst, v.sdText))
    len = buf.length ∧
    decRejected buf.length buf = some ((inPlmn.map fun v => (v.toSnssai, 0)) ++ (inTa.map fun v => (v.toSnssai, 1))) := by
  -- the library's two runs, with the causes 0 and 1, are one run of `encRej` over the entries paired with their cause
  have hall : ((inPlmn.map fun v => (v.sst, v.sdText)).flatMap fun (s, d) => rejectedSnssaiToNas s d 0) ++
      ((inTa.map fun v => (v.sst, v.sdText)).flatMap fun (s, d) => rejectedSnssaiToNas s d 1) =
      (inPlmn.map (·, 0) ++ inTa.map (·, 1)).flatMap encRej := by
    simp [List.flatMap_append, List.flatMap_map, encRej]
  have hcause : ∀ e ∈ inPlmn.map (·, 0) ++ inTa.map (·, 1), e.2 < 16 := by
    intro e he
    rcases List.mem_append.mp he with h | h <;> obtain ⟨v, -, rfl⟩ := List.mem_map.mp h <;> simp
  have hd := rejected_enc_dec _ hcause
  rw [List.map_append, List.map_map, List.map_map] at hd
  generalize (inPlmn.map (·, 0) ++ inTa.map (·, 1)).flatMap encRej = E at hfit hall hd
  -- `Len` is the length modulo 256, which `hfit` makes the length, so `Buffer` is all of `E`
  simp only [rejectedNssaiToNas, hall]
  rw [show E.length % 256 = E.length by omega, List.take_length]
  exact ⟨rfl, hd⟩

/-- LADN (9.11.3.30): DNN and tracking area identity list written by `LadnToNas` are recovered by the specification decoder -/
theorem ladn_enc_dec (dnn : Bytes) (hd : dnn.length < 256) (l : List TaiV) (h1 : 1 ≤ l.length) (h16 : l.length ≤ 16)
    (hv : ∀ t ∈ l, t.plmn.Valid) :
    ∃ w, ladnToNas dnn (l.map TaiV.toModel) = .ok w ∧ decLadn w = some (dnn, l.map TaiV.toOctets) := by
  obtain ⟨t, ht, hdec⟩ := taiList_enc_dec l h1 h16 hv
  have htl := decTaiList_len hdec
  refine ⟨UInt8.ofNat dnn.length :: dnn ++ (UInt8.ofNat t.length :: t), by simp [ladnToNas, ht], ?_⟩
  have e1 := UInt8.toNat_ofNat_of_lt' hd
  have e2 := UInt8.toNat_ofNat_of_lt' (show t.length < 256 by omega)
  simp only [List.cons_append, decLadn, e1, List.length_append, List.length_cons, List.drop_left, List.take_left, e2, hdec, if_true, Option.map_some]
  -- the test left is the first of `decLadn`: behind the DNN there is room for the length octet of the TAI list
  rw [if_pos (by omega)]

/-- a reserved length octet (anything but 1, 2, 4, 5, 8) at the head of the NSSAI contents is an error -/
theorem requestedNssai_bad_length (l : UInt8) (rest : Bytes) (h : l ≠ 1 ∧ l ≠ 2 ∧ l ≠ 4 ∧ l ≠ 5 ∧ l ≠ 8) :
    (requestedNssaiToModels (l :: rest).length (l :: rest)).isErr = true := by
  obtain ⟨h1, h2, h4, h5, h8⟩ := h
  simpa only [List.length_cons, decNssai, decSnssaiLV_none h1 h2 h4 h5 h8, agrees_none] using requestedNssai_spec (l :: rest)

/-- two instances of an S-NSSAI element cut short by the end of the contents (SST and SD announced with two octets left, an SST
announced with none left): each is an error -/
theorem requestedNssai_truncated : (requestedNssaiToModels 3 [4, 1, 2]).isErr = true ∧ (requestedNssaiToModels 1 [1]).isErr = true := by
  decide

def v1 : SnssaiV := ⟨1, some (0x01, 0x02, 0x03)⟩
def v2 : SnssaiV := ⟨2, none⟩
example : [v1, v2].flatMap SnssaiV.enc = [4, 1, 1, 2, 3, 1, 2] := by decide
example : requestedNssaiToModels 7 [4, 1, 1, 2, 3, 1, 2] = .ok [v1.toMapped, v2.toMapped] := by decide
example : decTaiList [0x01, 0x02, 0xf8, 0x39, 0, 0, 1, 0, 0, 2] =
    some [⟨[0x02, 0xf8, 0x39], [0, 0, 1]⟩, ⟨[0x02, 0xf8, 0x39], [0, 0, 2]⟩] := by decide
example : ladnToModels [2, 97, 98, 1, 99] = .ok [[97, 98], [99]] := by decide

end NasVerif.Props.C13

import NasVerif.Gen.Accessors
import NasVerif.Gen.Unrecognised
import NasVerif.Spec.AccessorLayout
import NasVerif.Proofs.DnnLemmas
/-!
# C09 — each IE field accessor reads and writes exactly its documented bits

`Gen.Acc.pairs` / `Gen.Acc.ranges` are regenerated from `/repo/nasType` on every run (typed transcription of every getter
and setter body). `pairOK` runs the verified symbolic bit executor on each scalar pair and compares with the documented
layout; `rangeOK` compares the bounds of each octet-range pair with its documented rows. The theorems below say what a
passed check means, for all prior contents and all argument values, of the scalar pairs and of the range pairs of kind
`.range`. The range pairs of kind `.tail` (the `INF` fields) are checked by `all_ranges_ok` too, and what their `copy`
pair does is `getTail_setTail` / `setTail_frame` in `Acc/Range.lean`; no theorem here puts the two together.
-/
namespace NasVerif.Props.C09
open NasVerif.Acc NasVerif.Gen.Acc

theorem translator_total : NasVerif.Gen.unrecognisedAcc = [] := rfl

/-- every scalar getter/setter pair passes the layout check (re-decided by the kernel on this run's source) -/
theorem all_pairs_ok : pairs.all pairOK = true := by decide +kernel

/-- every octet-range pair copies exactly its documented rows -/
theorem all_ranges_ok : ranges.all rangeOK = true := by decide

set_option maxRecDepth 10000 in
/-- the layouts in the source are the pinned (reviewed) ones: a field moved together with its annotation is noticed -/
theorem layout_pinned :
    (pairs.map (fun p => (p.type, p.field, p.ann.r0, p.ann.r1, p.ann.sBit, p.ann.len)) == NasVerif.Spec.scalarLayout &&
     ranges.map (fun p => (p.type, p.field, p.r0, p.r1, p.sBit, p.len)) == NasVerif.Spec.rangeLayout) = true := by
  -- the tables are equal by unfolding, where names compare as literals; evaluating `==` runs `String.decEq` on every name
  rw [show pairs.map (fun p => (p.type, p.field, p.ann.r0, p.ann.r1, p.ann.sBit, p.ann.len)) = NasVerif.Spec.scalarLayout from rfl,
    show ranges.map (fun p => (p.type, p.field, p.r0, p.r1, p.sBit, p.len)) = NasVerif.Spec.rangeLayout from rfl,
    beq_self_eq_true, beq_self_eq_true]
  rfl

theorem pair_ok (p : Pair) (h : p ∈ pairs) : pairOK p = true := List.all_eq_true.mp all_pairs_ok p h

/-- every scalar getter of `nasType` returns exactly its documented bits, with 0 above them -/
theorem getter_reads_documented_bits (p : Pair) (h : p ∈ pairs) (octs : Nat → Nat) (ho : ∀ i, octs i < 256) (j : Nat) :
    (eval ⟨octs, 0⟩ p.get).testBit j =
      (decide (j < p.ann.len) && (octs (posOf p.ann.r0 p.ann.sBit p.ann.len j).1).testBit (posOf p.ann.r0 p.ann.sBit p.ann.len j).2) := by
  obtain ⟨-, hget, -⟩ := (pairOK_iff p).mp (pair_ok p h)
  exact get_spec p hget octs ho j

/-- set-then-get returns the value truncated to the field width, for every prior content and every value -/
theorem set_then_get (p : Pair) (h : p ∈ pairs) (octs : Nat → Nat) (ho : ∀ i, octs i < 256) (v : Nat) (hv : v < 2^p.retW) :
    eval ⟨execSet v p.set octs, 0⟩ p.get = v % 2^p.ann.len :=
  set_get p (pair_ok p h) octs ho v hv

/-- a setter changes no bit outside its own field -/
theorem setter_frame (p : Pair) (h : p ∈ pairs) (octs : Nat → Nat) (ho : ∀ i, octs i < 256) (v : Nat) (hv : v < 2^p.retW)
    (i j : Nat) (hj : j < 8) (hout : ∀ q, q < p.ann.len → posOf p.ann.r0 p.ann.sBit p.ann.len q ≠ (i, j)) :
    (execSet v p.set octs i).testBit j = (octs i).testBit j :=
  set_frame p (pair_ok p h) octs ho v hv i j hj hout

/-- hence every other, non-overlapping field of the same element keeps its value -/
theorem other_field_unchanged (p q : Pair) (hp : p ∈ pairs) (hq : q ∈ pairs)
    (hdis : ∀ a b, a < p.ann.len → b < q.ann.len →
      posOf p.ann.r0 p.ann.sBit p.ann.len a ≠ posOf q.ann.r0 q.ann.sBit q.ann.len b)
    (octs : Nat → Nat) (ho : ∀ i, octs i < 256) (v : Nat) (hv : v < 2^p.retW) :
    eval ⟨execSet v p.set octs, 0⟩ q.get = eval ⟨octs, 0⟩ q.get := by
  obtain ⟨hqa, hqg, -⟩ := (pairOK_iff q).mp (pair_ok q hq)
  obtain ⟨-, -, hps⟩ := (pairOK_iff p).mp (pair_ok p hp)
  apply Nat.eq_of_testBit_eq
  intro j
  rw [get_spec q hqg _ (execSet_lt p hps octs ho v hv) j, get_spec q hqg octs ho j]
  by_cases hj : j < q.ann.len
  · obtain ⟨-, -, hbit⟩ := posOf_range q.ann q.retW hqa j hj
    rw [set_frame p (pair_ok p hp) octs ho v hv _ _ hbit]
    exact fun a ha hc => hdis a j ha hj hc
  · simp [hj]

/-- the identifier and length fields are separate struct members that no content setter assigns: the translator only
accepts `a.Octet…`/`a.Buffer[…]` assignment targets in setters (anything else is `unrecognisedAcc`) -/
theorem setters_touch_contents_only : NasVerif.Gen.unrecognisedAcc = [] := translator_total

/-- octet-range accessors of kind `.range`: set-then-get and frame of the Go `copy` pair `setRange`/`getRange`, for any
bounds `lo ≤ hi` within the contents; that the bounds of the pairs in `ranges` are their documented rows is `all_ranges_ok` -/
theorem range_set_then_get (c v : NasVerif.Bytes) (lo hi : Nat) (h : lo ≤ hi) (hv : v.length = hi - lo) (hc : hi ≤ c.length) :
    ∃ c', setRange c lo hi v = .ok c' ∧ getRange c' lo hi = .ok v ∧ c'.length = c.length ∧
      ∀ i, (i < lo ∨ hi ≤ i) → c'[i]? = c[i]? :=
  ⟨_, setRange_ok c v lo hi hv hc, getRange_splice c v lo hi h hv hc, splice_length c v lo hi h hv hc, splice_frame c v lo hi h hv hc⟩

set_option maxRecDepth 100000 in
/-- non-vacuity: the 10-bit two-octet field of GUTI5G is one of the pairs, and the check computes on it -/
example : (pairs.filter (fun p => p.type == "GUTI5G" && p.field == "AMFSetID")).map (fun p => (p.ann, pairOK p)) =
    [(⟨5, 6, 8, 10⟩, true)] := by decide +kernel
set_option maxRecDepth 100000 in
example : pairs.length = 539 ∧ ranges.length = 53 := by decide

/-! ## the one text-valued accessor pair: `DNN.SetDNN` / `DNN.GetDNN` (hand model `Model/Convert.lean`, tied by the
correspondence run: op `accs DNN`) -/
section dnn
open NasVerif.Model.Convert NasVerif.Proofs.Dnn

/-- **DNN: set-then-get returns the value.** For every text the setter accepts (every label at most 62 octets, the coded form
at most 100 octets), `GetDNN` on the buffer `SetDNN` stored returns exactly that text — empty labels (leading, trailing,
repeated dots) included. -/
theorem dnn_set_then_get (s b : Bytes) (h : fqdnToRfc1035 s = .ok b) : getDNN b = .ok s := by
  unfold fqdnToRfc1035 at h
  simp only at h
  split at h
  · cases h
  next hany =>
  split at h <;> cases h
  have hseg : ∀ g ∈ splitDot s [], g.length ≤ 62 := by simpa using hany
  rw [getDNN, dnnLoop_labels _ hseg _ (Nat.lt_succ_self _) [], Outcome.bind_ok, List.nil_append, splitDot_flat, List.nil_append,
    if_neg (by simp), chop1_eq (by simp), List.dropLast_concat]

/-- a text with an over-long label, or whose coded form exceeds 100 octets, leaves the element as it was -/
theorem dnn_set_invalid (old s : Bytes) (e) (h : fqdnToRfc1035 s = .err e) : setDNN old s = old := by
  simp [setDNN, h]

theorem dnn_set_valid (old s b : Bytes) (h : fqdnToRfc1035 s = .ok b) : setDNN old s = b ∧ getDNN (setDNN old s) = .ok s := by
  simp [setDNN, h, dnn_set_then_get s b h]

example : fqdnToRfc1035 (ascii ".local") = .ok [0, 5, 108, 111, 99, 97, 108] := by decide
example : getDNN [0, 5, 108, 111, 99, 97, 108] = .ok (ascii ".local") := by decide
example : fqdnToRfc1035 (ascii "") = .ok [0] ∧ getDNN [0] = .ok [] := by decide
example : fqdnToRfc1035 (ascii "a..b.") = .ok [1, 97, 0, 1, 98, 0] ∧ getDNN [1, 97, 0, 1, 98, 0] = .ok (ascii "a..b.") := by decide

end dnn

end NasVerif.Props.C09

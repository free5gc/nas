import NasVerif.Props.C06
import NasVerif.Proofs.MacLoops
/-!
# C07 — NIA1/NIA2/NIA3 MACs equal the standard 128-EIA1/2/3 functions

Proved: GF(2^64) arithmetic of NIA1 (`mulx`, `mulxPow`, `mul`) is the specification's MULx / MULxPOW / MUL; the SNOW 3G and
ZUC keystreams are the specifications' (C06); NIA1 is UIA2 f9 and NIA3 is 128-EIA3 for messages of every bit length
(`Proofs/MacLoops.lean`); NIA2 is 128-EIA2 for every block cipher (`nia2_spec`, stated of the function `NIA2`, not through
the API); the MAC API for algorithms 1 and 3 is f9 / 128-EIA3 at LENGTH = 8·octets (`nasMac13_spec`). The
implementation-vs-specification stream runs on every check as the tie of the model to the code.
-/
namespace NasVerif.Props.C07
open NasVerif NasVerif.Model

theorem mulx_spec (V c : BitVec 64) : Security.mulx V c = Spec.MULx64 V c := Proofs.MacLoops.mulx_spec V c

theorem mulxPow_spec (V : BitVec 64) (i : Nat) (c : BitVec 64) : Security.mulxPow V i c = Spec.MULxPOW64 V i c :=
  Proofs.MacLoops.mulxPow_spec V i c

theorem bit_test (P : BitVec 64) (i : Nat) : ((P >>> i) &&& 1#64 == 1#64) = P.getLsbD i := Proofs.MacLoops.bit_test P i

theorem mulLoop_spec (V P c : BitVec 64) (n i : Nat) (rst : BitVec 64) :
    Security.mulLoop V P c n i rst =
      (List.range' i n).foldl (fun acc j => if P.getLsbD j then acc ^^^ Spec.MULxPOW64 V j c else acc) rst :=
  Proofs.MacLoops.mulLoop_spec V P c n i rst

theorem mul_spec (V P c : BitVec 64) : Security.mul V P c = Spec.MUL64 V P c := Proofs.MacLoops.mul_spec V P c

/-- 128-EIA2 for every block cipher `E`, key, COUNT, bearer 0–31, direction 0–1 and message -/
theorem nia2_spec (E : Bytes → Bytes → Bytes) (key : Bytes) (count : BitVec 32) (b d : Nat) (hb : b < 32) (hd : d < 2)
    (msg : Bytes) :
    Security.NIA2 E key count (UInt8.ofNat b) (UInt8.ofNat d) msg = .ok (Spec.eia2 (E key) count.toNat b d msg) := by
  simp [Security.NIA2, Spec.eia2, Spec.t1, Security.put32, C06.octet5 b hb d hd]

theorem f9_fresh : ∀ b, b < 32 → BitVec.ofNat 32 (UInt8.ofNat b).toNat <<< 27 = BitVec.ofNat 32 (b * 2^27) := by decide
theorem f9_dir : ∀ d, d < 2 → BitVec.ofNat 32 d <<< 15 = BitVec.ofNat 32 (d * 2^15) ∧ BitVec.ofNat 32 d <<< 31 = BitVec.ofNat 32 (d * 2^31) := by
  decide

/-- NIA1 = UIA2 f9 (128-EIA1): for every key, COUNT, bearer 0–31, direction and message of every bit length (the message octets
hold the LENGTH bits, the unused low bits of the last octet being zero), the MAC is f9 of the message bit string -/
theorem nia1_spec (ik : Bytes) (count b d : Nat) (msg : Bytes) (length : Nat) (hb : b < 32) (hd : d < 2)
    (hlen : msg.length = (length + 7) / 8)
    (hz : (Spec.bytesBits msg).drop length = List.replicate (8 * msg.length - length) false) :
    Security.NIA1 ik (BitVec.ofNat 32 count) (UInt8.ofNat b) (BitVec.ofNat 32 d) msg length =
      .ok (Security.put32 (Spec.f9 ik count b d ((Spec.bytesBits msg).take length))) := by
  unfold Security.NIA1
  simp only []
  rw [Proofs.MacLoops.nia1Blocks_spec msg length ((Spec.bytesBits msg).take length) (Proofs.MacLoops.msgBits_getD msg length hz) hlen]
  simp only []
  rw [mul_spec]
  unfold Spec.f9
  simp only [Proofs.BitLists.take_bytesBits_length msg length (by omega), Nat.add_sub_cancel, C06.snow3g_keystream, C06.keyWords_eq,
    f9_fresh b hb, (f9_dir d hd).1, (f9_dir d hd).2, Spec.f9IV]
  rfl

theorem eia3_iv (count b d : Nat) (hb : b < 32) (hd : d < 2) :
    let c := Security.put32 (BitVec.ofNat 32 count)
    ([c.getD 0 0, c.getD 1 0, c.getD 2 0, c.getD 3 0, (UInt8.ofNat b <<< 3) &&& 0xF8, 0, 0, 0,
      (UInt8.ofNat d <<< 7) ^^^ c.getD 0 0, c.getD 1 0, c.getD 2 0, c.getD 3 0, (UInt8.ofNat b <<< 3) &&& 0xF8, 0, (UInt8.ofNat d <<< 7) ^^^ 0, 0] : Bytes).map
      (·.toNat) = Spec.eia3IV count b d := by
  have h1 : ∀ b, b < 32 → ((UInt8.ofNat b <<< 3) &&& 0xF8).toNat = b * 8 := by decide
  have h2 : ∀ d, d < 2 → (UInt8.ofNat d <<< 7).toNat = d * 128 := by decide
  have hc := C06.put32_toNat count
  simp only [Security.put32, List.map_cons, List.map_nil, List.cons.injEq, and_true] at hc
  obtain ⟨c0, c1, c2, c3⟩ := hc
  simp only [Security.put32, Spec.eia3IV, List.map_cons, List.map_nil, List.getD_cons_zero, List.getD_cons_succ, h1 b hb,
    UInt8.toNat_xor, h2 d hd, c0, c1, c2, c3]
  simp [Nat.xor_comm]

/-- NIA3 = 128-EIA3 for every key, COUNT, bearer 0–31, direction and message of every bit length -/
theorem nia3_spec (ik : Bytes) (count b d : Nat) (msg : Bytes) (length : Nat) (hb : b < 32) (hd : d < 2)
    (hlen : msg.length = (length + 7) / 8) :
    Security.NIA3 ik (BitVec.ofNat 32 count) (UInt8.ofNat b) (UInt8.ofNat d) msg length =
      .ok (Security.put32 (Spec.eia3 ik count b d ((Spec.bytesBits msg).take length))) := by
  have hn := Proofs.BitLists.take_bytesBits_length msg length (by omega)
  unfold Security.NIA3
  simp only []
  rw [Proofs.MacLoops.genMac_spec msg _ length ((Spec.bytesBits msg).take length) hn
    (fun t ht => take_getD _ _ _ _ ht)
    (by omega) (by rw [Zuc.Zuc_length])]
  rw [Proofs.MacLoops.eia3_eq, hn, C06.zuc_keystream]
  have := eia3_iv count b d hb hd
  simp only [] at this
  rw [this]

/-- the MAC API for algorithms 1 and 3: 4 octets, the f9 / 128-EIA3 MAC of the 8·|message| message bits
(pins the wrapper's octet-length → bit-length mapping and argument order) -/
theorem nasMac13_spec (E : Bytes → Bytes → Bytes) (key : Bytes) (count b d : Nat) (hb : b < 32) (hd : d < 2) (m : Bytes) :
    Security.NASMacCalculate E 1 key (BitVec.ofNat 32 count) (UInt8.ofNat b) (UInt8.ofNat d) (some m) =
      .ok (some (Security.put32 (Spec.f9 key count b d (Spec.bytesBits m)))) ∧
    Security.NASMacCalculate E 3 key (BitVec.ofNat 32 count) (UInt8.ofNat b) (UInt8.ofNat d) (some m) =
      .ok (some (Security.put32 (Spec.eia3 key count b d (Spec.bytesBits m)))) := by
  obtain ⟨hb', hd', -, hdn⟩ := C06.api_args b hb d hd
  have hfull := Proofs.BitLists.take_bytesBits_all m
  have hz : (Spec.bytesBits m).drop (m.length * 8) = List.replicate (8 * m.length - m.length * 8) false := by
    rw [List.drop_of_length_le (by rw [Proofs.BitLists.bytesBits_length]; omega), show 8 * m.length - m.length * 8 = 0 by omega]
    rfl
  constructor
  · have h := nia1_spec key count b d m (m.length * 8) hb hd (by omega) hz
    rw [hfull] at h
    exact Proofs.MacLoops.nasMac_nia1 E key _ _ _ m _ hb' hd' (by rw [hdn]; exact h)
  · have h := nia3_spec key count b d m (m.length * 8) hb hd (by omega)
    rw [hfull] at h
    exact Proofs.MacLoops.nasMac_nia3 E key _ _ _ m _ hb' hd' h

/-- non-vacuity: the GF(2^64) reduction actually happens (top bit set) -/
example : Security.mulx 0x8000000000000001#64 0x1b#64 = 0x19#64 := by decide

end NasVerif.Props.C07

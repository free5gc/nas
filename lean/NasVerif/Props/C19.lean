import NasVerif.Gen.Globals
/-!
# C19 — safe for concurrent use on independent values (partial: what a model can carry)

An abstract interleaving semantics: a shared store that no step writes, per-thread stores, threads whose steps read the
shared store and read/write only their own. A library call on distinct arguments is such a step because `Gen/Globals.lean`
(regenerated on every run) lists no place outside `init` where a package-level variable is assigned, has its address taken
or is handed out, and no import of `unsafe` or cgo; the logrus handles are external and internally synchronised (trusted).
Not carried: the Go memory model itself, races inside the standard library or logrus, data reachable from two goroutines'
arguments (the property's "distinct values" hypothesis).
-/
namespace NasVerif.Props.C19

structure Sys (G L : Type) where
  shared : G
  locals : Nat → L

/-- one step of thread `i`: reads the shared store and its own store, writes only its own store -/
def stepThread {G L} (prog : Nat → G → L → L) (s : Sys G L) (i : Nat) : Sys G L :=
  { s with locals := fun j => if j = i then prog i s.shared (s.locals i) else s.locals j }

/-- run a schedule: the list of thread ids in the order in which they take steps -/
def run {G L} (prog : Nat → G → L → L) (s : Sys G L) (sched : List Nat) : Sys G L :=
  sched.foldl (stepThread prog) s

/-- `n` steps of thread `i` on its own -/
def seqRun {G L} (prog : Nat → G → L → L) (g : G) (i : Nat) : Nat → L → L
  | 0, l => l
  | n + 1, l => seqRun prog g i n (prog i g l)

theorem seqRun_succ {G L} (prog : Nat → G → L → L) (g : G) (i n : Nat) (l : L) :
    seqRun prog g i (n + 1) l = prog i g (seqRun prog g i n l) := by
  induction n generalizing l with
  | zero => rfl
  | succ k ih => simp only [seqRun] at ih ⊢; exact ih _

theorem run_cons {G L} (prog : Nat → G → L → L) (s : Sys G L) (i : Nat) (r : List Nat) :
    run prog s (i :: r) = run prog (stepThread prog s i) r := rfl

/-- no schedule ever changes the shared store -/
theorem shared_never_written {G L} (prog : Nat → G → L → L) (s : Sys G L) (sched : List Nat) :
    (run prog s sched).shared = s.shared := by
  induction sched generalizing s with
  | nil => rfl
  | cons i r ih => rw [run_cons, ih]; rfl

/-- for every schedule, every thread ends exactly where its own sequential run of as many steps ends -/
theorem schedule_independent {G L} (prog : Nat → G → L → L) (s : Sys G L) (sched : List Nat) (i : Nat) :
    (run prog s sched).locals i = seqRun prog s.shared i (sched.count i) (s.locals i) := by
  induction sched generalizing s with
  | nil => rfl
  | cons j r ih =>
    rw [run_cons, ih]
    simp only [stepThread]
    by_cases hji : i = j
    · subst hji
      simp only [if_true, List.count_cons_self, seqRun]
    · simp only [hji, if_false, List.count_cons_of_ne (Ne.symm hji)]

/-- two schedules with the same number of steps per thread give the same final state: the outcome is that of a sequential execution -/
theorem same_result_any_interleaving {G L} (prog : Nat → G → L → L) (s : Sys G L) (s1 s2 : List Nat)
    (h : ∀ i, s1.count i = s2.count i) (i : Nat) : (run prog s s1).locals i = (run prog s s2).locals i := by
  rw [schedule_independent, schedule_independent, h]

/-- no function other than `init` assigns a package-level variable, takes its address or hands out a reference to it -/
theorem no_writers_outside_init : Gen.Globals.writersOutsideInit = [] := rfl

/-- neither `unsafe` nor cgo is imported by the library -/
theorem no_unsafe : Gen.Globals.unsafeImports = [] := rfl

/-- the only externally typed shared objects are the logrus handles of package logger -/
theorem external_shared_are_loggers :
    Gen.Globals.externalSharedPkgs.all (fun s => s == "logger") = true := by decide

/-- non-vacuity: three threads, a schedule and its reversal give the same result -/
example : (run (fun i g l => l + g * (i + 1)) ⟨2, fun _ => 0⟩ [0, 1, 2, 1, 0, 0]).locals 0 =
    (run (fun i g l => l + g * (i + 1)) ⟨2, fun _ => 0⟩ [0, 0, 1, 2, 1, 0]).locals 0 := by decide

end NasVerif.Props.C19

import NasVerif.Model.Security
import NasVerif.Spec.EEA
import NasVerif.Proofs.Snow3gRefine
import NasVerif.Proofs.ZucRefine
import NasVerif.Proofs.EncBits
import NasVerif.Gen.Unrecognised
import NasVerif.Gen.Globals
/-!
# C06 — NEA1/NEA2/NEA3 equal the standard 128-EEA1/2/3 functions

Proved here (kernel-checked): the lookup tables regenerated from the source equal the standards' tables; the models of
`snow3g.go` and `zuc.go` generate exactly the SNOW 3G / ZUC keystreams of the specifications for every key, IV and length;
NEA1 is UEA2 f8 and NEA3 is 128-EEA3 for every bit length (`Proofs/EncBits.lean`), NEA2 is 128-EEA2 for every block cipher;
the in-place API is those functions at LENGTH = 8·octets. The implementation-vs-specification differential stream
(`secspec`) runs on every check as the tie of the model to the code.
-/
namespace NasVerif.Props.C06
open NasVerif NasVerif.Model

theorem translator_total : Gen.unrecognisedCrypto = [] := rfl

/-- the five lookup tables in the source are the standards' tables -/
theorem tables_eq :
    Gen.Crypto.snow_sr = Spec.Tab.snow_sr ∧ Gen.Crypto.snow_sq = Spec.Tab.snow_sq ∧
    Gen.Crypto.zuc_s0 = Spec.Tab.zuc_s0 ∧ Gen.Crypto.zuc_s1 = Spec.Tab.zuc_s1 ∧ Gen.Crypto.zuc_d = Spec.Tab.zuc_d := by
  decide +kernel

/-- SNOW 3G: for every key, IV and number of words the modelled `GetKeyStream` is the specification's keystream -/
theorem snow3g_keystream (k iv : List (BitVec 32)) (n : Nat) :
    Snow3g.GetKeyStream k iv n = Spec.Snow3G.keystream k iv n :=
  have ⟨sr, sq, _, _, _⟩ := tables_eq
  Proofs.Snow3gRefine.GetKeyStream_eq ⟨sr, sq⟩ k iv n

theorem octet5 : ∀ b, b < 32 → ∀ d, d < 2 →
    ((UInt8.ofNat b <<< 3) ||| (UInt8.ofNat d <<< 2)) = UInt8.ofNat (b * 8 + d * 4) := by decide

theorem api_args : ∀ b, b < 32 → ∀ d, d < 2 →
    ¬ (UInt8.ofNat b > 0x1f) ∧ ¬ (UInt8.ofNat d > 1) ∧ (UInt8.ofNat b).toNat = b ∧ (UInt8.ofNat d).toNat = d := by decide

theorem put32_toNat (count : Nat) : (Security.put32 (BitVec.ofNat 32 count)).map (·.toNat) =
    [count / 2 ^ 24 % 256, count / 2 ^ 16 % 256, count / 2 ^ 8 % 256, count % 256] := by
  simp only [Security.put32, List.map_cons, List.map_nil, BitVec.toNat_ofNat, UInt8.toNat_ofNat']
  rw [show count % 2 ^ 32 / 2 ^ 24 % 2 ^ 8 = count / 2 ^ 24 % 256 by omega, show count % 2 ^ 32 / 2 ^ 16 % 2 ^ 8 = count / 2 ^ 16 % 256 by omega,
    show count % 2 ^ 32 / 2 ^ 8 % 2 ^ 8 = count / 2 ^ 8 % 256 by omega, show count % 2 ^ 32 % 2 ^ 8 = count % 256 by omega]

/-- 128-EEA2 for every block cipher `E`, key, COUNT, bearer 0–31, direction 0–1 and payload. `Spec.eea2` follows Go's
`cipher.NewCTR`, which increments all 128 bits of the counter block (TS 33.401 B.1.3: the low 64 bits); the two differ only
after 2^64 blocks -/
theorem nea2_spec (E : Bytes → Bytes → Bytes) (key : Bytes) (count : BitVec 32) (b d : Nat) (hb : b < 32) (hd : d < 2)
    (ibs : Bytes) :
    Security.NEA2 E key count (UInt8.ofNat b) (UInt8.ofNat d) ibs = .ok (Spec.eea2 (E key) count.toNat b d ibs) := by
  simp [Security.NEA2, Spec.eea2, Security.counterBlock, Spec.t1, Security.put32, octet5 b hb d hd]

theorem nasEncrypt2_spec (E : Bytes → Bytes → Bytes) (key : Bytes) (count : BitVec 32) (b d : Nat) (hb : b < 32) (hd : d < 2)
    (p : Bytes) (hlen : (Spec.eea2 (E key) count.toNat b d p).length = p.length) :
    Security.NASEncrypt E 2 key count (UInt8.ofNat b) (UInt8.ofNat d) (some p) =
      .ok ⟨false, some (Spec.eea2 (E key) count.toNat b d p)⟩ := by
  obtain ⟨hb', hd', -, -⟩ := api_args b hb d hd
  rw [Proofs.EncLoops.nasEncrypt_nea2 E key count _ _ p _ hb' hd' (nea2_spec E key count b d hb hd p),
    Proofs.EncLoops.copy_same p _ hlen]

/-- ZUC: the model of zuc.go generates the specification's keystream, for every key, IV and number of words -/
theorem zuc_keystream (k iv : Bytes) (n : Nat) :
    Zuc.Zuc (Security.toBV8 k) (Security.toBV8 iv) n = Spec.ZUC.keystream (k.map (·.toNat)) (iv.map (·.toNat)) n := by
  have ⟨_, _, s0, s1, d⟩ := tables_eq
  have h := Proofs.ZucRefine.Zuc_eq ⟨s0, s1, d⟩ (Security.toBV8 k) (Security.toBV8 iv) n
  have e (l : Bytes) : (Security.toBV8 l).map BitVec.toNat = l.map (·.toNat) := by
    simp [Security.toBV8, List.map_map, Function.comp_def]
  rw [e, e] at h
  exact h

theorem keyWords_eq (ck : Bytes) : Security.keyWords ck = Spec.f8Key ck := by
  rw [Security.keyWords, show List.range 4 = [0, 1, 2, 3] from rfl]
  rfl

theorem f8_iv : ∀ b, b < 32 → ∀ d, d < 2 →
    ((BitVec.ofNat 32 b <<< 27) ||| (BitVec.ofNat 32 d <<< 26)) = BitVec.ofNat 32 (b * 2^27 + d * 2^26) := by decide

/-- NEA1 = UEA2 f8 (128-EEA1) for every key, COUNT, bearer 0–31, direction, input and every bit length LENGTH ≤ 8·|input|:
the call succeeds, the output has the input's length, and its first LENGTH bits are f8 of the first LENGTH input bits -/
theorem nea1_spec (ck : Bytes) (count b d : Nat) (ibs : Bytes) (length : Nat) (hb : b < 32) (hd : d < 2)
    (hlen : length ≤ 8 * ibs.length) :
    ∃ out, Security.NEA1 ck (BitVec.ofNat 32 count) (BitVec.ofNat 32 b) (BitVec.ofNat 32 d) ibs length = .ok out ∧
      out.length = ibs.length ∧
      (Spec.bytesBits out).take length = Spec.f8 ck count b d ((Spec.bytesBits ibs).take length) := by
  obtain ⟨out, hrun, hl, hbits⟩ := Proofs.EncBits.nea1_bits ck (BitVec.ofNat 32 count) (BitVec.ofNat 32 b) (BitVec.ofNat 32 d) ibs length
    (by omega)
  refine ⟨out, hrun, hl, ?_⟩
  rw [hbits]
  have hiv : Proofs.EncLoops.snowIv (BitVec.ofNat 32 count) (BitVec.ofNat 32 b) (BitVec.ofNat 32 d) = Spec.f8IV count b d := by
    simp only [Proofs.EncLoops.snowIv, Spec.f8IV, f8_iv b hb d hd]
  unfold Spec.f8
  simp only [Proofs.BitLists.take_bytesBits_length ibs length hlen]
  rw [keyWords_eq, hiv, snow3g_keystream]

/-- NEA3 = 128-EEA3 for every key, COUNT, bearer 0–31, direction, input and every bit length -/
theorem nea3_spec (ck : Bytes) (count b d : Nat) (ibs : Bytes) (length : Nat) (hb : b < 32) (hd : d < 2)
    (hlen : length ≤ 8 * ibs.length) :
    ∃ out, Security.NEA3 ck (BitVec.ofNat 32 count) (UInt8.ofNat b) (UInt8.ofNat d) ibs length = .ok out ∧
      out.length = ibs.length ∧
      (Spec.bytesBits out).take length = Spec.eea3 ck count b d ((Spec.bytesBits ibs).take length) := by
  obtain ⟨out, hrun, hl, hbits⟩ := Proofs.EncBits.nea3_bits ck (BitVec.ofNat 32 count) (UInt8.ofNat b) (UInt8.ofNat d) ibs length
    (by omega)
  refine ⟨out, hrun, hl, ?_⟩
  rw [hbits]
  unfold Spec.eea3
  simp only [Proofs.BitLists.take_bytesBits_length ibs length hlen]
  unfold Proofs.EncLoops.zucStream
  simp only []
  rw [zuc_keystream, octet5 b hb d hd]
  simp only [List.map_append, put32_toNat, List.map_cons, List.map_nil,
    UInt8.toNat_ofNat_of_lt' (show b * 8 + d * 4 < 256 by omega)]
  rfl

/-- in-place API, algorithms 1 and 3: the payload is replaced by the f8 / 128-EEA3 ciphertext of its 8·|payload| bits
(this is where the wrapper's octet-length → bit-length mapping and the copy back over the payload are pinned) -/
theorem nasEncrypt13_spec (E : Bytes → Bytes → Bytes) (key : Bytes) (count b d : Nat) (hb : b < 32) (hd : d < 2) (p : Bytes) :
    (∃ out, Security.NASEncrypt E 1 key (BitVec.ofNat 32 count) (UInt8.ofNat b) (UInt8.ofNat d) (some p) = .ok ⟨false, some out⟩ ∧
      out.length = p.length ∧ Spec.bytesBits out = Spec.f8 key count b d (Spec.bytesBits p)) ∧
    (∃ out, Security.NASEncrypt E 3 key (BitVec.ofNat 32 count) (UInt8.ofNat b) (UInt8.ofNat d) (some p) = .ok ⟨false, some out⟩ ∧
      out.length = p.length ∧ Spec.bytesBits out = Spec.eea3 key count b d (Spec.bytesBits p)) := by
  obtain ⟨hb', hd', hbn, hdn⟩ := api_args b hb d hd
  have hfull (out : Bytes) (hl : out.length = p.length) : (Spec.bytesBits out).take (p.length * 8) = Spec.bytesBits out := by
    rw [← hl, Proofs.BitLists.take_bytesBits_all]
  have hfullp := Proofs.BitLists.take_bytesBits_all p
  constructor
  · obtain ⟨out, hrun, hl, hbits⟩ := nea1_spec key count b d p (p.length * 8) hb hd (by omega)
    have hrow := Proofs.EncLoops.nasEncrypt_nea1 E key _ _ _ p out hb' hd' (by rw [hbn, hdn]; exact hrun)
    exact ⟨out, by rw [hrow, Proofs.EncLoops.copy_same p out hl], hl, by rw [← hfull out hl, hbits, hfullp]⟩
  · obtain ⟨out, hrun, hl, hbits⟩ := nea3_spec key count b d p (p.length * 8) hb hd (by omega)
    have hrow := Proofs.EncLoops.nasEncrypt_nea3 E key _ _ _ p out hb' hd' hrun
    exact ⟨out, by rw [hrow, Proofs.EncLoops.copy_same p out hl], hl, by rw [← hfull out hl, hbits, hfullp]⟩

/-- The models take the ciphering and integrity functions to be functions of their arguments. On the facts regenerated from the
source on this run: no function of the security packages (other than `init`) assigns a package-level variable, takes its
address or hands out a reference to it — no cache, pool or scratch buffer through which one call could influence another. -/
theorem security_stateless :
    ∀ p ∈ Gen.Globals.writerPkgs, p ≠ "security" ∧ p ≠ "security/snow3g" ∧ p ≠ "security/zuc" := by decide

set_option maxRecDepth 1000000 in
/-- non-vacuity: published SNOW 3G test set 1 through the model -/
example : (Snow3g.GetKeyStream [0x2BD6459F#32, 0x82C5B300#32, 0x952C4910#32, 0x4881FF48#32]
    [0xEA024714#32, 0xAD5C4D84#32, 0xDF1F9B25#32, 0x1C0BF45F#32] 2) = [0xabee9704#32, 0x7ac31373#32] := by decide +kernel

end NasVerif.Props.C06

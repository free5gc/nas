import NasVerif.Props.Codec
/-! # C03 — re-encoding a decoded message is stable, and byte-exact for canonical input -/
namespace NasVerif.Props.C03
open NasVerif.Codec NasVerif.Props.Codec

/-- whatever decodes re-encodes; the re-encoding decodes to the same message; encoding again is identical -/
theorem reencode_fixpoint (inp : Option Bytes) (m : NasMsg) (h : plainDecode Model.top inp = .ok m) :
    ∃ bs', plainEncode Model.top m = .ok bs' ∧ plainDecode Model.top (some bs') = .ok m ∧
      ∀ m', plainDecode Model.top (some bs') = .ok m' → plainEncode Model.top m' = .ok bs' :=
  fixpoint_of_roundtrip (dec := fun bs => plainDecode Model.top (some bs))
    (plain_roundtrip Model.top top_wf m ((plainDecode_post Model.top top_wf inp).of_ok h))

/-- canonical input (= the encoding of some well-formed message: known elements only, each at most once, in
definition order) is reproduced byte for byte -/
theorem canonical_exact (m0 : NasMsg) (hm0 : WFNas Model.top m0) (bs : Bytes)
    (hbs : plainEncode Model.top m0 = .ok bs) :
    ∃ m, plainDecode Model.top (some bs) = .ok m ∧ plainEncode Model.top m = .ok bs :=
  canonical_of_roundtrip (dec := fun bs => plainDecode Model.top (some bs)) (plain_roundtrip Model.top top_wf m0 hm0) hbs

/-- the same for each codec called directly -/
theorem msg_reencode_fixpoint (name : String) (e : MsgEntry) (h : findMsg Model.top.msgs name = some e)
    (bs : Bytes) (v : MsgVal) (hd : decode e.dec bs = .ok v) :
    ∃ bs', encode e.dec v = .ok bs' ∧ decode e.dec bs' = .ok v ∧ ∀ v', decode e.dec bs' = .ok v' → encode e.dec v' = .ok bs' :=
  fixpoint_of_roundtrip (roundtrip _ (entry_wf name e h) v (decode_wf _ (entry_wf name e h) bs v hd))

/-- non-vacuity, on input that is not canonical: an input with a duplicated and an unknown element decodes -/
example : (plainDecode Model.top (some [0x7e,0x00,0x44,0x01,0x16,0x01,0xaa,0xff,0x16,0x01,0xbb])).isOk = true := by decide +kernel

end NasVerif.Props.C03

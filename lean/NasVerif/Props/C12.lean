import NasVerif.Proofs.IdentityLemmas
import NasVerif.Props.C14
/-!
# C12 — subscriber and network identities convert faithfully between wire and text

Specification side (`Spec/Identity.lean`): the octet layouts of TS 24.501 9.11.3.4 / TS 24.008 10.5.1.13 and the text
formats of TS 23.003, written independently of the Go code over digits and nibbles.
Each theorem is about a model of `Model/Convert.lean` and quantifies over *all* valid identities (every MCC/MNC with 2- or
3-digit MNC, all 2^24 AMF identifiers, all 2^32 TMSIs, every routing indicator of 1..4 digits, every MSIN / scheme output /
IMEI / IMEISV digit string).
-/
namespace NasVerif.Props.C12
open NasVerif.Model.Convert NasVerif.Spec.Identity NasVerif.Proofs.Identity

theorem plmn_to_text (p : Plmn) (hv : p.Valid) : plmnIDToString p.octets = .ok p.text := by
  have hn := mnc3_lt hv
  obtain ⟨h1, h2, h3, h4, h5, h6⟩ := hv
  simpa (disch := omega) [Plmn.octets, plmnIDToString, oct_and_0f, oct_hi4, ofNat_shl4_or, hexEnc_oct, hexEnc.eq_1,
    hexDigitChar_digit, Plmn.text, Plmn.mccText] using mnc_text p h6 p.mccText

theorem text_to_plmn (p : Plmn) (hv : p.Valid) : plmnIDToNas p.mccText p.mncText = .ok p.octets := by
  obtain ⟨h1, h2, h3, h4, h5, h6⟩ := hv
  -- two-digit MNC, octet 2: the default `0x0f` of MNC digit 3 is a literal, not of the form `UInt8.ofNat _` on which `ofNat_shl4_or` rewrites
  have ho2 : (0x0f : UInt8) <<< 4 ||| UInt8.ofNat p.mcc3 = oct 15 p.mcc3 := ofNat_shl4_or 15 (by omega) _ (by omega)
  rcases hm : p.mnc3 with _ | d
  -- three-digit MNC: digit 3 is read like the others, for which `omega` needs its bound, and `ho2` finds nothing to rewrite
  case' some => have := h6 d hm
  all_goals simp (disch := omega) [plmnIDToNas, Plmn.mccText, Plmn.mncText, hm, digitOr, atoi1_digitChar, Plmn.octets, ofNat_shl4_or, ho2]

/-- valid PLMNs with the same MCC and MNC text have the same octets: both are what `plmnIDToNas` makes of that text -/
theorem plmn_octets_of_text {p q : Plmn} (hp : p.Valid) (hq : q.Valid) (hmcc : p.mccText = q.mccText)
    (hmnc : p.mncText = q.mncText) : p.octets = q.octets := by
  have e := text_to_plmn p hp
  rw [hmcc, hmnc, text_to_plmn q hq] at e
  exact (Outcome.ok.inj e).symm

/-- text → (region, set, pointer): the 8/10/6 split of TS 23.003 -/
theorem amfId_text_to_nas (r s p : Nat) (hs : s < 1024) (hp : p < 64) :
    amfIdToNas (hexText (amfOctets r s p)) = .ok (UInt8.ofNat r, UInt16.ofNat s, UInt8.ofNat p) := by
  rw [amfOctets, amfIdToNas_hexText, (amfSet_ofNat s p hs hp).1, (amfSet_ofNat s p hs hp).2]

theorem amfId_nas_to_text (r s p : Nat) (hs : s < 1024) (hp : p < 64) :
    amfIdToModels (UInt8.ofNat r) (UInt16.ofNat s) (UInt8.ofNat p) = hexText (amfOctets r s p) := by
  rw [amfOctets, ← amfIdToModels_amfSet, (amfSet_ofNat s p hs hp).1, (amfSet_ofNat s p hs hp).2]

theorem text_to_guti (p : Plmn) (hv : p.Valid) (a0 a1 a2 t0 t1 t2 t3 : UInt8) :
    gutiToNas (gutiText p [a0, a1, a2] [t0, t1, t2, t3]) = .ok (gutiOctets p [a0, a1, a2] [t0, t1, t2, t3]) := by
  obtain ⟨h1, h2, h3, h4, h5, h6⟩ := hv
  -- the last two parts of the text as `gutiToNas` meets them: six characters for `amfIdToNas`, eight for `hexDec`
  have hamf := amfIdToNas_hexText a0 a1 a2
  have htm := hexDec_hexText [t0, t1, t2, t3]
  simp only [hexText] at hamf htm
  -- 19 characters (two-digit MNC): octet 3 holds the literal `0x0f` as in `text_to_plmn`, here out of reach of `setBits_oct`
  have ho2 : setBits (setBits 0 240 (UInt8.ofNat p.mcc3) 15 0) 15 15 15 4 = oct 15 p.mcc3 :=
    setBits_oct 15 (by omega) p.mcc3 (by omega)
  rcases hm : p.mnc3 with _ | d
  -- 20 characters: MNC digit 3 is read like the others, for which `omega` needs its bound, and `ho2` finds nothing to rewrite
  case' some => have := h6 d hm
  all_goals simp (disch := omega) [
    gutiText, Plmn.text, Plmn.mccText, Plmn.mncText, hm, hexText,
    gutiToNas, atoiAt, atoi1_digitChar, hamf, htm,
    guti_o0, setBits_oct, ho2, amfSet_hi, amfSet_lo_setBits, -UInt16.toUInt8_and, copy4, gutiOctets, Plmn.octets]

theorem guti_to_text (p : Plmn) (hv : p.Valid) (a0 a1 a2 t0 t1 t2 t3 : UInt8) :
    gutiToString (gutiOctets p [a0, a1, a2] [t0, t1, t2, t3]) =
      .ok { mcc := p.mccText, mnc := p.mncText, amfId := hexText [a0, a1, a2], guti := gutiText p [a0, a1, a2] [t0, t1, t2, t3] } := by
  have ht := plmn_to_text p hv
  simp only [Plmn.octets] at ht
  simp [gutiToString, gutiOctets, Plmn.octets, ht, hexEnc_eq_hexText, gutiText, Plmn.text, Plmn.mccText]

/-- IMEI / IMEISV: the digits of the identity, with the prefix selected by the type of identity -/
theorem pei_to_text (typ d1 : Nat) (rest : List Nat) (ht : typ < 8) (hd : ∀ d ∈ d1 :: rest, d < 10) :
    peiToString (peiOctets typ d1 rest) =
      .ok ((if typ = 3 then ascii "imei-" else ascii "imeisv-") ++ digitsText (d1 :: rest)) := by
  have hd1 : d1 < 10 := hd d1 (by simp)
  have f := oct_and_07 d1 (by omega) ((if rest.length % 2 = 0 then 8 else 0) + typ) (by split <;> omega)
  rw [show ((if rest.length % 2 = 0 then 8 else 0) + typ) % 8 = typ by split <;> omega] at f
  have h3 : UInt8.ofNat typ = 3 ↔ typ = 3 := (by decide : ∀ t, t < 8 → (UInt8.ofNat t = 3 ↔ t = 3)) typ ht
  rw [peiToString, pei_digits typ d1 rest ht hd]
  simp [peiOctets, f, h3]

theorem suci_assemble (p : Plmn) (hv : p.Valid) (ri : List Nat) (hl : 1 ≤ ri.length ∧ ri.length ≤ 4) (hri : ∀ d ∈ ri, d < 10)
    (s hnpk : Nat) (hs : s < 16) (hk : hnpk < 256) (out soTxt : Bytes) (hout : out ≠ [])
    (hso : schemeOutputText (UInt8.ofNat s) out = .ok soTxt) :
    suciToString (suciOctets p ri s hnpk out) = .ok (suciText p ri [hexDigitChar s] (fmtDec hnpk) soTxt, p.text) := by
  obtain ⟨b4, b5, hb, hr⟩ := suci_ri ri hl hri
  have hmcc := suci_mcc p hv (p.mnc3.getD 15) (mnc3_lt hv)
  have hmnc := suci_mnc p hv
  have hkk := UInt8.toNat_ofNat_of_lt' hk
  have hlen : 0 < out.length := List.length_pos_iff.mpr hout
  have hbuf : suciOctets p ri s hnpk out = 0x01 :: oct p.mcc2 p.mcc1 :: oct (p.mnc3.getD 15) p.mcc3 :: oct p.mnc2 p.mnc1 ::
      b4 :: b5 :: UInt8.ofNat s :: UInt8.ofNat hnpk :: out := by
    simp only [suciOctets, Plmn.octets, hb, List.cons_append, List.nil_append]
  -- the guards: the contents are not empty, octet 1 = `0x01` has SUPI format 0 (not an NAI), and with `out` there are nine octets
  rw [hbuf, suciToString, if_neg (by simp only [List.length_cons]; omega), idx_cons_zero, Outcome.bind_ok,
    if_neg (by decide : ¬ ((0x01 : UInt8) &&& 0xf0) >>> 4 = 1), if_neg (by simp only [List.length_cons]; omega)]
  simp only [idx_cons_succ, idx_cons_zero, sliceFrom_cons_succ, sliceFrom_zero, Outcome.bind_ok, Outcome.pure_eq, hmcc, hmnc, hr, hso,
    hkk, (scheme_hex s hs).2]
  simp [join, suciText, dash, dashB, Plmn.text, ascii]

/-- whatever `GutiToNasWithError` accepts has 19 or 20 characters, decimal digits in the five leading positions -/
theorem gutiToNas_ok_valid {g w : Bytes} (h : gutiToNas g = .ok w) :
    (g.length = 19 ∨ g.length = 20) ∧ ∀ i, i < 5 → (atoi1 (g.getD i 0)).isSome := by
  unfold gutiToNas at h
  split at h
  · cases h
  · next hl =>
    refine ⟨by omega, ?_⟩
    obtain ⟨d0, h0, h⟩ := Outcome.bind_eq_ok.mp h
    obtain ⟨d1, h1, h⟩ := Outcome.bind_eq_ok.mp h
    obtain ⟨d2, h2, h⟩ := Outcome.bind_eq_ok.mp h
    obtain ⟨d3, h3, h⟩ := Outcome.bind_eq_ok.mp h
    obtain ⟨d4, h4, h⟩ := Outcome.bind_eq_ok.mp h
    intro i hi
    rcases (by omega : i = 0 ∨ i = 1 ∨ i = 2 ∨ i = 3 ∨ i = 4) with rfl | rfl | rfl | rfl | rfl <;>
      simp only [atoiAt_ok h0, atoiAt_ok h1, atoiAt_ok h2, atoiAt_ok h3, atoiAt_ok h4, Option.isSome_some]

theorem amfIdToNas_ok_valid {s : Bytes} {r : UInt8 × UInt16 × UInt8} (h : amfIdToNas s = .ok r) :
    ∃ a0 a1 a2, hexDec s = some [a0, a1, a2] := by
  unfold amfIdToNas at h
  split at h
  · cases h
  · next bs hb =>
    split at h
    · cases h
    · next hl =>
      match bs, hl with
      | [a, b, c], _ => exact ⟨a, b, c, hb⟩
      | [], hl | [_], hl | [_, _], hl | _ :: _ :: _ :: _ :: _, hl => simp at hl

theorem plmn_text_wire_text (p : Plmn) (hv : p.Valid) :
    (plmnIDToNas p.mccText p.mncText >>= plmnIDToString) = .ok p.text := by
  rw [text_to_plmn p hv, Outcome.bind_ok]; exact plmn_to_text p hv

-- `hr` is not used: both sides reduce `r` modulo 256
set_option linter.unusedVariables false in
/-- AMF identifier: (region, set, pointer) → text → (region, set, pointer), all 2^24 identifiers -/
theorem amfId_nas_text_nas (r s p : Nat) (hr : r < 256) (hs : s < 1024) (hp : p < 64) :
    amfIdToNas (amfIdToModels (UInt8.ofNat r) (UInt16.ofNat s) (UInt8.ofNat p)) = .ok (UInt8.ofNat r, UInt16.ofNat s, UInt8.ofNat p) := by
  rw [amfId_nas_to_text r s p hs hp]; exact amfId_text_to_nas r s p hs hp

/-- AMF identifier: text → (region, set, pointer) → text, for the lower-case text of any three octets -/
theorem amfId_text_nas_text (a0 a1 a2 : UInt8) :
    (amfIdToNas (hexText [a0, a1, a2]) >>= fun (r, s, p) => (pure (amfIdToModels r s p) : Outcome Bytes)) = .ok (hexText [a0, a1, a2]) := by
  rw [amfIdToNas_hexText, Outcome.bind_ok]
  exact congrArg Outcome.ok (amfIdToModels_amfSet a0 a1 a2)

theorem guti_text_wire_text (p : Plmn) (hv : p.Valid) (a0 a1 a2 t0 t1 t2 t3 : UInt8) :
    (gutiToNas (gutiText p [a0, a1, a2] [t0, t1, t2, t3]) >>= gutiToString) =
      .ok { mcc := p.mccText, mnc := p.mncText, amfId := hexText [a0, a1, a2], guti := gutiText p [a0, a1, a2] [t0, t1, t2, t3] } := by
  rw [text_to_guti p hv, Outcome.bind_ok]; exact guti_to_text p hv a0 a1 a2 t0 t1 t2 t3

theorem guti_wire_text_wire (p : Plmn) (hv : p.Valid) (a0 a1 a2 t0 t1 t2 t3 : UInt8) :
    (gutiToString (gutiOctets p [a0, a1, a2] [t0, t1, t2, t3]) >>= fun t => gutiToNas t.guti) =
      .ok (gutiOctets p [a0, a1, a2] [t0, t1, t2, t3]) := by
  rw [guti_to_text p hv, Outcome.bind_ok]; exact text_to_guti p hv a0 a1 a2 t0 t1 t2 t3

/-- null protection scheme: the scheme output is the BCD-coded MSIN -/
theorem suci_to_text_null (p : Plmn) (hv : p.Valid) (ri : List Nat) (hl : 1 ≤ ri.length ∧ ri.length ≤ 4) (hri : ∀ d ∈ ri, d < 10)
    (hnpk : Nat) (hk : hnpk < 256) (msin : List Nat) (hm : ∀ d ∈ msin, d < 10) (hne : msin ≠ []) :
    suciToString (suciOctets p ri 0 hnpk (bcdPack msin)) =
      .ok (suciText p ri (ascii "0") (fmtDec hnpk) (digitsText msin), p.text) := by
  have hb : bcdPack msin ≠ [] := by
    match msin, hne with
    | [a], _ => simp [bcdPack]
    | a :: b :: r, _ => simp [bcdPack]
  -- `suci_assemble` gives the scheme as `[hexDigitChar 0]`; that is `ascii "0"` by evaluation
  exact suci_assemble p hv ri hl hri 0 hnpk (by omega) hk _ _ hb (suci_so_null msin hm hne)

/-- non-null protection scheme (1..15): the scheme output is opaque octets, rendered as hexadecimal text -/
theorem suci_to_text_scheme (p : Plmn) (hv : p.Valid) (ri : List Nat) (hl : 1 ≤ ri.length ∧ ri.length ≤ 4) (hri : ∀ d ∈ ri, d < 10)
    (s hnpk : Nat) (hs : s < 16) (h0 : s ≠ 0) (hk : hnpk < 256) (out : Bytes) (hout : out ≠ []) :
    suciToString (suciOctets p ri s hnpk out) =
      .ok (suciText p ri [hexDigitChar s] (fmtDec hnpk) (hexText out), p.text) :=
  suci_assemble p hv ri hl hri s hnpk hs hk out _ hout (suci_so_scheme s hs h0 out)

/-- a GUTI text of the wrong length, or with a non-digit among the five leading characters, is an error -/
theorem gutiToNas_invalid_err (g : Bytes)
    (h : ¬ (g.length = 19 ∨ g.length = 20) ∨ ∃ i, i < 5 ∧ atoi1 (g.getD i 0) = none) : (gutiToNas g).isErr = true := by
  refine isErr_of_noPanic (C14.gutiToNas_total g) fun w hg => ?_
  obtain ⟨hlen, hdig⟩ := gutiToNas_ok_valid hg
  rcases h with h | ⟨i, hi, hn⟩
  · exact h hlen
  · have := hdig i hi; rw [hn] at this; cases this

/-- an AMF identifier text that is not the hexadecimal text of exactly three octets is an error -/
theorem amfIdToNas_invalid_err (s : Bytes) (h : ∀ a0 a1 a2, hexDec s ≠ some [a0, a1, a2]) : (amfIdToNas s).isErr = true := by
  refine isErr_of_noPanic (C14.amfIdToNas_total s) fun r hs => ?_
  obtain ⟨a0, a1, a2, ha⟩ := amfIdToNas_ok_valid hs
  exact h a0 a1 a2 ha

/-! ## non-vacuity: concrete identities meet the hypotheses and the functions produce the expected values -/

def p20893 : Plmn := ⟨2, 0, 8, 9, 3, none⟩
example : p20893.Valid := by simp [Plmn.Valid, p20893]
example : p20893.octets = [0x02, 0xf8, 0x39] := by decide
example : gutiToNas (ascii "20893cafe0000000001") = .ok [0xf2, 0x02, 0xf8, 0x39, 0xca, 0xfe, 0x00, 0x00, 0x00, 0x00, 0x01] := by decide +kernel
example : (suciToString [0x01, 0x02, 0xf8, 0x39, 0xf0, 0xff, 0x00, 0x00, 0x00, 0x00, 0x47, 0x78]).isOk = true := by decide
example : (gutiToNas (ascii "2089Xcafe0000000001")).isErr = true := by decide +kernel
example : (amfIdToNas (ascii "cafe")).isErr = true := by decide

end NasVerif.Props.C12

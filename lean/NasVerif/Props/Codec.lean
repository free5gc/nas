import NasVerif.Codec.TopTheorems
import NasVerif.Model.Nas
import NasVerif.Gen.Unrecognised
/-!
Run obligations shared by C01–C05, C10: the tables regenerated from /repo on this run are well formed.
Re-decided by the kernel on every run (`decide`, no `native_decide`).
-/
namespace NasVerif.Props.Codec
open NasVerif.Codec

/-- every statement of the 90 codec functions, the dispatchers and the IE helper methods was mapped to the IR -/
theorem translator_total : Gen.unrecognisedCodec = [] := rfl

/-- all 45 regenerated tables, both dispatch tables and their cross-consistency -/
theorem top_wf : Model.top.wf = true := by
  have hw : ∀ e ∈ Model.top.msgs, e.dec.wf = true := by decide +kernel
  have hc := all_compat Model.top.msgs (by decide +kernel) rfl rfl
  exact (Top.wf_iff _).2 ⟨hw, hc, by decide +kernel, by decide +kernel, by decide⟩

theorem msgs_wf : Model.top.msgs.all (fun e => e.dec.wf && e.compat) = true := by
  obtain ⟨hw, hc, _⟩ := (Top.wf_iff _).1 top_wf
  exact List.all_eq_true.2 fun e he => by rw [hw e he, hc e he]; rfl

theorem entry_wf (name : String) (e : MsgEntry) (h : findMsg Model.top.msgs name = some e) : e.dec.wf = true :=
  ((Top.wf_iff _).1 top_wf).1 e (findMsg_mem h)

end NasVerif.Props.Codec

import NasVerif.Model.Pco
import NasVerif.Proofs.Bits
/-!
# C16 — protocol configuration options and PDU session bitmaps round-trip

Model: `Model/Pco.lean` (nasConvert/PSI.go, PDUSessionReactivationResultErrorCause.go, nasType ProtocolConfigurationOptions.go).
* PDU session bitmaps: `PSIToBuf` and `PSIToBooleanArray` are inverse to each other on two octets / sixteen flags (every octet is
  the packing of its eight mask tests, `packOctet_octBits`); a shorter buffer reads as all false; the reactivation error causes
  are as many identifiers and causes interleaved;
* PCO parser: no `panic` is reachable in the model of `UnMarshal` (`pco_unmarshal_total`); its loop returns what it has read when
  the fuel runs out, so this holds for any fuel and does not say that the fuel the model supplies, the length of the input, is
  enough. Every unit `UnMarshal` returns stands in the input as identifier, length, contents (`InInput`);
* PCO round trip: `UnMarshal (Marshal l) = l` when every unit's identifier fits 16 bits and its length fits 8 bits and is the
  length of its contents (`UnitOK`); that the fuel is enough is shown here, on serialised lists only. What the `Add…` builders
  store, and that every list they build is of that kind.
-/
namespace NasVerif.Props.C16
open NasVerif NasVerif.Model.Pco

def octBits (x : UInt8) : List Bool := (List.range 8).map (fun i => (x &&& (1 <<< UInt8.ofNat i)) != 0)

theorem psi_arr_eq (a b : UInt8) : psiToBooleanArray [a, b] = octBits a ++ octBits b := by
  simp [psiToBooleanArray, octBits, List.range, List.range.loop]

theorem shl_toNat : ∀ n, n < 8 → ((1 : UInt8) <<< UInt8.ofNat n).toNat = 2 ^ n := by decide

theorem packOctet_testBit (l : List Bool) (j : Nat) : (packOctet l).toNat.testBit j = (decide (j < 8) && l.getD j false) := by
  suffices h : ∀ n, n ≤ 8 →
      ((List.range n).foldl (fun acc i => if l.getD i false then acc ||| (1 <<< UInt8.ofNat i) else acc) (0 : UInt8)).toNat.testBit j =
        (decide (j < n) && l.getD j false) from h 8 (Nat.le_refl _)
  intro n
  induction n with
  | zero => intro _; simp
  | succ n ih =>
    intro hn
    rw [List.range_succ, List.foldl_append, List.foldl_cons, List.foldl_nil]
    have ih := ih (by omega)
    have hs := shl_toNat n (by omega)
    -- `getD_eq_getElem?_getD` is kept out: simp would bring `l.getD j false` to `l[j]?.getD false`, the form of neither `ih` nor `hl`
    by_cases hj : j = n
    · subst hj
      cases hl : l.getD j false <;> simp [-List.getD_eq_getElem?_getD, hl, ih, hs]
    · have hlt : j < n + 1 ↔ j < n := by omega
      cases l.getD n false <;> simp [-List.getD_eq_getElem?_getD, ih, hs, hlt, Ne.symm hj]

theorem octBits_eq (x : UInt8) : octBits x = (List.range 8).map fun i => x.toNat.testBit i := by
  unfold octBits
  exact List.map_congr_left fun i hi => Bits.mask_test x i (List.mem_range.mp hi)

theorem packOctet_octBits (x : UInt8) : packOctet (octBits x) = x := by
  refine UInt8.toNat_inj.mp (Bits.eq_of_testBit_lt (w := 8) (UInt8.toNat_lt _) x.toNat_lt fun j hj => ?_)
  rw [packOctet_testBit, octBits_eq]
  simp [hj, List.getD_eq_getElem?_getD]

theorem octBits_length (x : UInt8) : (octBits x).length = 8 := by simp [octBits]

theorem psi_buf_roundtrip (a b : UInt8) : psiToBuf (psiToBooleanArray [a, b]) = [a, b] := by
  rw [psi_arr_eq, psiToBuf, List.take_left' (octBits_length a), List.drop_left' (octBits_length a), packOctet_octBits,
    packOctet_octBits]

theorem pack_bits : ∀ b0 b1 b2 b3 b4 b5 b6 b7 : Bool,
    octBits (packOctet [b0, b1, b2, b3, b4, b5, b6, b7]) = [b0, b1, b2, b3, b4, b5, b6, b7] := by
  intro b0 b1 b2 b3 b4 b5 b6 b7
  rw [octBits_eq]
  simp [packOctet_testBit, List.range, List.range.loop]

theorem psi_array_roundtrip (b0 b1 b2 b3 b4 b5 b6 b7 c0 c1 c2 c3 c4 c5 c6 c7 : Bool) :
    psiToBooleanArray (psiToBuf [b0, b1, b2, b3, b4, b5, b6, b7, c0, c1, c2, c3, c4, c5, c6, c7]) =
      [b0, b1, b2, b3, b4, b5, b6, b7, c0, c1, c2, c3, c4, c5, c6, c7] := by
  have hb := pack_bits b0 b1 b2 b3 b4 b5 b6 b7
  have hc := pack_bits c0 c1 c2 c3 c4 c5 c6 c7
  simp only [psiToBuf, List.take, List.drop]
  rw [psi_arr_eq, hb, hc]
  rfl

theorem psi_short (buf : Bytes) (h : buf.length < 2) : psiToBooleanArray buf = List.replicate 16 false := by
  simp [psiToBooleanArray, h]

theorem reactivation_interleaves (ids causes : Bytes) (h : ids.length = causes.length) :
    reactivationErrorCauseToBuf (some ids) causes = (ids.zip causes).flatMap (fun (a, b) => [a, b]) := by
  simp [reactivationErrorCauseToBuf, h]

def UnitOK (u : PcoUnit) : Prop := u.id < 65536 ∧ u.len < 256 ∧ u.len = u.contents.length

theorem marshal_head (l : List PcoUnit) : (marshal l).head? = some 0x80 := rfl

theorem unmarshalLoop_marshal : ∀ (l : List PcoUnit) (acc : List PcoUnit) (fuel : Nat),
    (∀ u ∈ l, UnitOK u) → (marshalUnits l).length ≤ fuel →
    unmarshalLoop fuel (marshalUnits l) acc = .ok (acc ++ l) := by
  intro l
  induction l with
  | nil => intro acc fuel _ _; cases fuel <;> simp [marshalUnits, unmarshalLoop]
  | cons u us ih =>
    intro acc fuel hok hf
    obtain ⟨id, len, contents⟩ := u
    obtain ⟨⟨hid, hlen, rfl⟩, hrest⟩ : (id < 65536 ∧ len < 256 ∧ len = contents.length) ∧ ∀ u' ∈ us, UnitOK u' :=
      List.forall_mem_cons.mp hok
    have h1 : (UInt8.ofNat (id / 256)).toNat * 256 + (UInt8.ofNat id).toNat = id := by simp [UInt8.toNat_ofNat']; omega
    have h2 := UInt8.toNat_ofNat_of_lt' (show contents.length < 256 from hlen)
    simp only [marshalUnits, unitBytes, List.cons_append, List.length_cons, List.length_append] at hf
    cases fuel with
    | zero => omega
    | succ fuel =>
      simp only [marshalUnits, unitBytes, List.cons_append, unmarshalLoop, h1, h2]
      cases contents with
      | nil => simp [ih _ fuel hrest (by omega)]
      | cons c cs =>
        have hz : ¬ UInt8.ofNat (c :: cs).length = 0 := fun hc => by
          have := congrArg UInt8.toNat hc; rw [h2] at this; simp at this
        rw [if_neg hz, if_neg (by simp), if_neg (by simp), List.take_left, List.drop_left,
          ih _ fuel hrest (by simp only [List.length_cons] at hf; omega)]
        simp

theorem pco_roundtrip (l : List PcoUnit) (h : ∀ u ∈ l, UnitOK u) : unmarshal (marshal l) = .ok l := by
  have := unmarshalLoop_marshal l [] (marshalUnits l).length h (Nat.le_refl _)
  simpa [unmarshal, marshal] using this

theorem unmarshalLoop_step (fuel : Nat) (bs : Bytes) (acc : List PcoUnit) :
    (∃ u rest, bs = unitBytes u ++ rest ∧ unmarshalLoop (fuel + 1) bs acc = unmarshalLoop fuel rest (acc ++ [u])) ∨
      unmarshalLoop (fuel + 1) bs acc = .ok acc ∨ unmarshalLoop (fuel + 1) bs acc = .err .trunc := by
  match bs with
  | [] => exact .inr (.inl rfl)
  | [_] => exact .inr (.inr rfl)
  | [_, _] => exact .inr (.inl rfl)
  | x :: y :: n :: rest =>
    have hid : UInt8.ofNat ((x.toNat * 256 + y.toNat) / 256) = x ∧ UInt8.ofNat (x.toNat * 256 + y.toNat) = y := by
      have := x.toNat_lt; have := y.toNat_lt
      constructor <;> apply UInt8.toNat_inj.mp <;> simp [UInt8.toNat_ofNat'] <;> omega
    rw [unmarshalLoop]
    by_cases hn : n = 0
    · rw [if_pos hn]
      exact .inl ⟨_, rest, by simp [unitBytes, hid, hn], rfl⟩
    · rw [if_neg hn]
      by_cases hr : rest = []
      · rw [if_pos hr]; exact .inr (.inl rfl)
      · rw [if_neg hr]
        by_cases hl : rest.length < n.toNat
        · rw [if_pos hl]; exact .inr (.inr rfl)
        · rw [if_neg hl]
          exact .inl ⟨_, rest.drop n.toNat, by simp [unitBytes, hid], rfl⟩

theorem unmarshalLoop_no_panic : ∀ (fuel : Nat) (bs : Bytes) (acc : List PcoUnit), unmarshalLoop fuel bs acc ≠ .panic := by
  intro fuel
  induction fuel with
  | zero => intro bs acc; simp [unmarshalLoop]
  | succ fuel ih =>
    intro bs acc
    rcases unmarshalLoop_step fuel bs acc with ⟨u, rest, -, h⟩ | h | h <;> rw [h]
    · exact ih _ _
    · simp
    · simp

theorem pco_unmarshal_total (data : Bytes) : unmarshal data ≠ .panic := by
  unfold unmarshal
  cases data with
  | nil => simp
  | cons _ rest => exact unmarshalLoop_no_panic _ _ _

def InInput (data : Bytes) (u : PcoUnit) : Prop :=
  ∃ pre post, data = pre ++ unitBytes u ++ post

theorem unmarshalLoop_in_input : ∀ (fuel : Nat) (pre bs : Bytes) (acc out : List PcoUnit),
    (∀ u ∈ acc, InInput (pre ++ bs) u) → unmarshalLoop fuel bs acc = .ok out → ∀ u ∈ out, InInput (pre ++ bs) u := by
  intro fuel
  induction fuel with
  | zero => intro pre bs acc out ha h; simp [unmarshalLoop] at h; subst h; exact ha
  | succ fuel ih =>
    intro pre bs acc out ha h
    rcases unmarshalLoop_step fuel bs acc with ⟨u, rest, rfl, hs⟩ | hs | hs <;> rw [hs] at h
    · rw [← List.append_assoc] at ha ⊢
      refine ih _ rest _ out (fun u' hu' => ?_) h
      rcases List.mem_append.mp hu' with hu' | hu'
      · exact ha u' hu'
      · cases List.mem_singleton.mp hu'
        exact ⟨pre, rest, rfl⟩
    · cases h; exact ha
    · cases h

theorem pco_contents_in_input (data : Bytes) (out : List PcoUnit) (h : unmarshal data = .ok out) :
    ∀ u ∈ out, InInput data u := by
  unfold unmarshal at h
  cases data with
  | nil => simp at h
  | cons b rest =>
    have := unmarshalLoop_in_input rest.length [b] rest [] out (by simp) h
    simpa using this

example : unmarshal [0x80, 0x00, 0x0d, 0x04, 8, 8, 8, 8, 0x00, 0x0a, 0x00] = .ok [⟨13, 4, [8, 8, 8, 8]⟩, ⟨10, 0, []⟩] := by decide

theorem ipTo4_len {ip a : Bytes} (h : ipTo4 ip = some a) : a.length = 4 := by
  unfold ipTo4 at h
  split at h
  · next h4 => cases h; exact h4
  · split at h
    · next h16 => cases h; simp [List.length_drop, h16.1]
    · cases h

theorem ipTo16_len {ip a : Bytes} (h : ipTo16 ip = some a) : a.length = 16 := by
  unfold ipTo16 at h
  split at h
  · next h4 => cases h; simp [h4]
  · split at h
    · next h16 => cases h; exact h16
    · cases h

theorem buildUnit_ok (b : Build) (u : PcoUnit) (h : buildUnit b = some u) : UnitOK u := by
  cases b with
  | dns4 ip | pcscf4 ip =>
    simp only [buildUnit, Option.map_eq_some_iff] at h
    obtain ⟨a, ha, rfl⟩ := h
    exact ⟨by simp, by simp, (ipTo4_len ha).symm⟩
  | dns6 ip =>
    simp only [buildUnit] at h
    split at h
    · simp only [Option.map_eq_some_iff] at h
      obtain ⟨a, ha, rfl⟩ := h
      exact ⟨by simp, by simp, (ipTo16_len ha).symm⟩
    · cases h
  | _ => cases h; exact ⟨by simp, by simp, rfl⟩

theorem build_fst (bs : List Build) : (build bs).1 = bs.filterMap buildUnit := by
  induction bs with
  | nil => rfl
  | cons b r ih => rw [build, List.filterMap_cons, ← ih]; cases buildUnit b <;> rfl

theorem build_ok (bs : List Build) : ∀ u ∈ (build bs).1, UnitOK u := by
  intro u hu
  rw [build_fst] at hu
  obtain ⟨b, -, hb⟩ := List.mem_filterMap.mp hu
  exact buildUnit_ok b u hb

/-- a list built with the `Add…` builders round-trips -/
theorem built_roundtrip (bs : List Build) : unmarshal (marshal (build bs).1) = .ok (build bs).1 :=
  pco_roundtrip _ (build_ok bs)

/-- what the address builders store: an IPv4 address (given in 4 or in IPv4-mapped 16 octets) as its four octets, an IPv6
address as its sixteen octets; anything else is an error and appends nothing; the MTU as two octets, most significant first -/
theorem builders_spec (a b c d : UInt8) :
    buildUnit (.dns4 [a, b, c, d]) = some ⟨13, 4, [a, b, c, d]⟩ ∧
    buildUnit (.dns4 ([0, 0, 0, 0, 0, 0, 0, 0, 0, 0, 0xff, 0xff, a, b, c, d])) = some ⟨13, 4, [a, b, c, d]⟩ ∧
    buildUnit (.pcscf4 [a, b, c, d]) = some ⟨12, 4, [a, b, c, d]⟩ ∧
    buildUnit (.dns6 [a, b, c, d]) = none ∧
    (∀ m, m < 65536 → buildUnit (.mtu4 m) = some ⟨16, 2, [UInt8.ofNat (m / 256), UInt8.ofNat m]⟩) := by
  refine ⟨rfl, ?_, rfl, rfl, fun _ _ => rfl⟩
  simp [buildUnit, ipTo4]

theorem dns6_spec (ip : Bytes) (h : ip.length = 16) : buildUnit (.dns6 ip) = some ⟨3, 16, ip⟩ := by
  simp [buildUnit, ipTo16, h]

theorem dns4_rejects (ip : Bytes) (h4 : ip.length ≠ 4) (h16 : ip.length ≠ 16) : buildUnit (.dns4 ip) = none := by
  simp [buildUnit, ipTo4, h4, h16]

example : (build [.dns4Req, .dns4 [8, 8, 8, 8], .dns6 [1, 2], .mtu4 1500]).1 =
    [⟨13, 0, []⟩, ⟨13, 4, [8, 8, 8, 8]⟩, ⟨16, 2, [5, 220]⟩] := by decide
example : marshal (build [.dns4 [8, 8, 8, 8], .mtu4 1500]).1 = [0x80, 0, 13, 4, 8, 8, 8, 8, 0, 16, 2, 5, 220] := by decide

end NasVerif.Props.C16

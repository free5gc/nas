import NasVerif.Proofs.QosLemmas
/-!
# C15 — QoS rules and QoS flow descriptions: total parser, exact round trip

Models: `Model/Qos.lean` (nasType/qos_flow_desc.go, qos_rule.go), tied to the Go code by the correspondence run.
* totality: for every byte string both parsers return a value or an error; the loops finish within their fuel because every
  iteration consumes at least one octet (running out of fuel is a `panic` in the model);
* unknown identifiers: an unknown parameter identifier / packet-filter component type at the head of what the list parser has
  still to read is the error `unknown` (one step of `parseParamList` / `parseComps`); this is carried up to `unmarshalDescs`
  for the first parameter of the first description only;
* round trip: for every well-formed list (`WFDesc`: at most 63 parameters, operation code ≤ 7; `WFRule`: operation code ≤ 7,
  at most 15 packet filters with identifiers and directions below 16, QFI below 64, IPv4 address/mask of 4 octets, MAC
  addresses of 6 octets, flow labels below 2^19, at most 255 octets of components per filter, delete-operation filters
  carrying identifiers only; the predicates stand at the head of `Proofs/QosLemmas.lean`) serialising then parsing returns the
  list;
* layout: the serialised form spelled out in plain numbers, as in Figures 9.11.4.12.x / 9.11.4.13.x.
-/
namespace NasVerif.Props.C15
open NasVerif NasVerif.Model.Qos NasVerif.Proofs.Qos

theorem unmarshalDescs_total (b : Bytes) : NoPanic (unmarshalDescs b) := by
  rw [unmarshalDescs, unmarshalDescsLoop_eq]
  exact walk_eof_total eats_parseFlowDesc b

theorem parseParamList_unknown (n : Nat) (id len : UInt8) (rest : Bytes) (h : ¬ KnownParamId id) :
    parseParamList (n + 1) (id :: len :: rest) = .err .unknown := by
  simp [parseParamList, readU8, parseParam_unknown _ h]

theorem unmarshalDescs_unknown_first (qfi op num id len : UInt8) (rest : Bytes) (hn : num &&& 63 ≠ 0) (h : ¬ KnownParamId id) :
    unmarshalDescs (qfi :: op :: num :: id :: len :: rest) = .err .unknown := by
  have hnum : num ≠ 0 := by intro h0; subst h0; exact hn (by decide)
  obtain ⟨k, hk⟩ : ∃ k, (num &&& 63).toNat = k + 1 := by
    cases hq : (num &&& 63).toNat with
    | zero => exact absurd (UInt8.toNat_inj.mp (by simpa using hq)) hn
    | succ k => exact ⟨k, rfl⟩
  have hp : parseFlowDesc (qfi :: op :: num :: id :: len :: rest) = .err .unknown := by
    simp only [parseFlowDesc, readU8, Outcome.bind_ok, ne_eq, hnum, not_false_eq_true, if_true, hk,
      parseParamList_unknown _ _ _ _ h, Outcome.bind_err]
  rw [unmarshalDescs, unmarshalDescsLoop, hp]

theorem descs_roundtrip (l : List FlowDesc) (hw : ∀ d ∈ l, WFDesc d) : unmarshalDescs (marshalDescs l) = .ok l := by
  rw [unmarshalDescs, unmarshalDescsLoop_eq, marshalDescs]
  simpa using walk_eof_flatMap marshalDesc id rfl l fun d hd => parseFlowDesc_marshal d (hw d hd)

theorem unmarshalRules_total (b : Bytes) : NoPanic (unmarshalRules b) := by
  rw [unmarshalRules, unmarshalRulesLoop_eq]
  exact walk_total consumes_ruleStep b

theorem parseComps_unknown (fuel : Nat) (t : UInt8) (rest : Bytes) (acc : List Comp) (h : compLen t = none) :
    parseComps (fuel + 1) (t :: rest) acc = .err .unknown := by
  simp [parseComps, h]

theorem rules_roundtrip (l : List Rule) (hw : ∀ r ∈ l, WFRule r) :
    ∃ bytes, marshalRules l = .ok bytes ∧ unmarshalRules bytes = .ok l := by
  obtain ⟨bytes, hb, hp⟩ := walk_encAll (step := ruleStep) marshalRule id rfl l fun r hr => ruleStep_marshal r (hw r hr)
  exact ⟨bytes, by rw [marshalRules_eq]; exact hb, by rw [unmarshalRules, unmarshalRulesLoop_eq, hp, List.map_id]⟩

/-- a flow description is: QFI octet; operation code in bits 8..6; E bit (bit 7, set iff parameters follow) and the number
of parameters in bits 6..1; then for each parameter its identifier, the length of its contents, its contents -/
theorem marshalDesc_layout (d : FlowDesc) (hw : WFDesc d) :
    marshalDesc d = [d.qfi, UInt8.ofNat (d.op.toNat * 32), UInt8.ofNat ((if d.params.length = 0 then 0 else 64) + d.params.length)] ++
      d.params.flatMap (fun p => p.ident :: UInt8.ofNat p.body.length :: p.body) := by
  rw [marshalDesc_eq d hw.1, op_value d.op hw.2]
  rfl

/-- a QoS rule is: rule identifier; length of the rest (2 octets); operation code (bits 8..6) | DQR (bit 5) | number of packet
filters (bits 4..1); the packet filter list; precedence; segregation (bit 7) | QFI (bits 6..1) -/
theorem marshalRule_layout (r : Rule) (hw : WFRule r) :
    ∃ pfb, (if r.op = 5 then (pure (buildPfDeleteList r.pfs) : Outcome Bytes) else buildPfList r.pfs) = .ok pfb ∧
      marshalRule r = .ok (r.id :: be16 (UInt16.ofNat (pfb.length + 3)) ++
        (UInt8.ofNat (r.op.toNat * 32 + (if r.dqr then 16 else 0) + r.pfs.length) :: pfb ++
          [r.prec, UInt8.ofNat ((if r.seg then 64 else 0) + r.qfi.toNat)])) := by
  obtain ⟨hop, hn, hq, hpf⟩ := hw
  have h1 := rule_header_value r.op hop r.pfs.length (by omega) r.dqr
  have h2 := rule_qfi_value r.qfi hq r.seg
  have hl : ∀ (hdr x y : UInt8) (pfb : Bytes), (hdr :: pfb ++ [x, y]).length = pfb.length + 3 := by intros; simp
  obtain ⟨pb, hpb, -⟩ := rulePfs_marshal r.op r.pfs hpf
  refine ⟨pb, hpb, ?_⟩
  unfold marshalRule
  rw [hpb]
  simp only [Outcome.bind_ok, Outcome.pure_eq, h1, h2, hl]

example : WFDesc ⟨9, 1, [.fiveQI 9, .gfbrUl 6 100, .avgWindow 2000]⟩ := by unfold WFDesc; decide
example : unmarshalDescs (marshalDescs [⟨9, 1, [.fiveQI 9, .gfbrUl 6 100, .avgWindow 2000]⟩, ⟨5, 2, []⟩]) =
    .ok [⟨9, 1, [.fiveQI 9, .gfbrUl 6 100, .avgWindow 2000]⟩, ⟨5, 2, []⟩] := by decide
example : unmarshalDescs [0x01, 0x20, 0x41, 0x09, 0x00] = .err .unknown := by decide
example : (marshalRules [⟨1, 1, true, [⟨1, 3, [.matchAll, .proto 17, .remotePort 5060]⟩], 255, false, 9⟩]).isOk = true := by decide
example : unmarshalRules [1, 0, 6, 0x21, 0x31, 1, 0x21, 0xff, 5] = .err .unknown := by decide

end NasVerif.Props.C15

import NasVerif.Gen.CryptoTables
/-!
# Model of /repo/security/zuc/zuc.go (function by function)

LFSR cells are `uint32` holding 31-bit values; `Lfsr.state` uses the add-with-end-around-carry trick
`f = (f & 0x7FFFFFFF) + (f >> 31)`.
-/
namespace NasVerif.Model.Zuc
abbrev W32 := BitVec 32

def sbox0 (i : W32) : BitVec 8 := BitVec.ofNat 8 (NasVerif.Gen.Crypto.zuc_s0.getD i.toNat 0)
def sbox1 (i : W32) : BitVec 8 := BitVec.ofNat 8 (NasVerif.Gen.Crypto.zuc_s1.getD i.toNat 0)
def ek_d (i : Nat) : W32 := BitVec.ofNat 32 (NasVerif.Gen.Crypto.zuc_d.getD i 0)

structure State where
  s  : List W32     -- 16 cells
  r0 : W32
  r1 : W32
deriving Repr, DecidableEq

def State.c (st : State) (i : Nat) : W32 := st.s.getD i 0

def rot (a : W32) (k : Nat) : W32 := (a <<< k) ||| (a >>> (32 - k))
def l1 (x : W32) : W32 := x ^^^ rot x 2 ^^^ rot x 10 ^^^ rot x 18 ^^^ rot x 24
def l2 (x : W32) : W32 := x ^^^ rot x 8 ^^^ rot x 14 ^^^ rot x 22 ^^^ rot x 30
def makeU32 (a b c d : BitVec 8) : W32 :=
  (a.setWidth 32 <<< 24) ||| (b.setWidth 32 <<< 16) ||| (c.setWidth 32 <<< 8) ||| d.setWidth 32

/-- `f = (f & 0x7FFFFFFF) + (f >> 31)` -/
def fold31 (f : W32) : W32 := (f &&& 0x7FFFFFFF#32) + (f >>> 31)

/-- one iteration of `for i, v := range x { f += ((l.s[v] << k[i]) | (l.s[v] >> (31 - k[i]))) & 0x7FFFFFFF; f = fold }` -/
def tap (st : State) (f : W32) (v k : Nat) : W32 :=
  fold31 (f + (((st.c v <<< k) ||| (st.c v >>> (31 - k))) &&& 0x7FFFFFFF#32))

/-- `Lfsr.state(mode, u)`; `init = true` is "InitialisationMode" -/
def lfsrState (st : State) (init : Bool) (u : W32) : State :=
  let f := st.c 0
  let f := tap st f 0 8
  let f := tap st f 4 20
  let f := tap st f 10 21
  let f := tap st f 13 17
  let f := tap st f 15 15
  let f := if init then fold31 (f + u) else f
  { st with s := st.s.drop 1 ++ [f] }

def bitReorganization (st : State) : W32 × W32 × W32 × W32 :=
  ( ((st.c 15 &&& 0x7FFF8000#32) <<< 1) ||| (st.c 14 &&& 0xFFFF#32),
    ((st.c 11 &&& 0xFFFF#32) <<< 16) ||| (st.c 9 >>> 15),
    ((st.c 7 &&& 0xFFFF#32) <<< 16) ||| (st.c 5 >>> 15),
    ((st.c 2 &&& 0xFFFF#32) <<< 16) ||| (st.c 0 >>> 15) )

def nonlinF (st : State) (x0 x1 x2 : W32) : State × W32 :=
  let w := (x0 ^^^ st.r0) + st.r1
  let w1 := st.r0 + x1
  let w2 := st.r1 ^^^ x2
  let u := l1 ((w1 <<< 16) ||| (w2 >>> 16))
  let v := l2 ((w2 <<< 16) ||| (w1 >>> 16))
  ({ st with
      r0 := makeU32 (sbox0 (u >>> 24)) (sbox1 ((u >>> 16) &&& 0xFF#32)) (sbox0 ((u >>> 8) &&& 0xFF#32)) (sbox1 (u &&& 0xFF#32)),
      r1 := makeU32 (sbox0 (v >>> 24)) (sbox1 ((v >>> 16) &&& 0xFF#32)) (sbox0 ((v >>> 8) &&& 0xFF#32)) (sbox1 (v &&& 0xFF#32)) }, w)

def initLoop : Nat → State → State
  | 0, st => st
  | n+1, st =>
    let (x0, x1, x2, _) := bitReorganization st
    let (st', w) := nonlinF st x0 x1 x2
    initLoop n (lfsrState st' true (w >>> 1))

/-- key loading + 32 initialisation rounds; `k`, `iv` are the 16 key / IV octets (indexing beyond 16 would panic in Go) -/
def initialization (k iv : List (BitVec 8)) : State :=
  initLoop 32
    { s := (List.range 16).map (fun i => ((k.getD i 0).setWidth 32 <<< 23) ||| (ek_d i <<< 8) ||| (iv.getD i 0).setWidth 32),
      r0 := 0, r1 := 0 }

def ksLoop : Nat → State → List W32
  | 0, _ => []
  | n+1, st =>
    let (x0, x1, x2, x3) := bitReorganization st
    let (st', w) := nonlinF st x0 x1 x2
    (w ^^^ x3) :: ksLoop n (lfsrState st' false 0)

def generateKeystream (wlength : Nat) (st : State) : List W32 :=
  let (x0, x1, x2, _) := bitReorganization st
  let (st', _) := nonlinF st x0 x1 x2
  ksLoop wlength (lfsrState st' false 0)

def Zuc (k iv : List (BitVec 8)) (wlength : Nat) : List W32 := generateKeystream wlength (initialization k iv)

theorem ksLoop_length (n : Nat) (s : State) : (ksLoop n s).length = n := by
  induction n generalizing s with
  | zero => rfl
  | succ n ih => simp [ksLoop, ih]

theorem ksLoop_prefix (n m : Nat) (h : m ≤ n) (s : State) : (ksLoop n s).take m = ksLoop m s := by
  induction m generalizing n s with
  | zero => rfl
  | succ m ih =>
    obtain ⟨n, rfl⟩ : ∃ k, n = k + 1 := ⟨n - 1, by omega⟩
    simp only [ksLoop, List.take_succ_cons, ih n (by omega)]

theorem Zuc_length (k iv : List (BitVec 8)) (n : Nat) : (Zuc k iv n).length = n := by
  simp [Zuc, generateKeystream, ksLoop_length]

theorem Zuc_prefix (k iv : List (BitVec 8)) (n m : Nat) (h : m ≤ n) : (Zuc k iv n).take m = Zuc k iv m := by
  unfold Zuc generateKeystream
  exact ksLoop_prefix n m h _

end NasVerif.Model.Zuc

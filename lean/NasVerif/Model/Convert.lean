import NasVerif.Prelude.GoLib
/-!
# Models of the identity / slice / area-list helpers (C12, C13, C14)

nasConvert/MobileIdentity5GS.go, PlmnId.go, AmfId.go, Nssai.go, Snssai.go, TaiList.go, ServiceAreaList.go, Ladn.go,
UESecurityCapability.go, PSI.go, UPUInfo.go (UpuAckToModels); nasType/NAS_MobileIdentity5GS.go (text getters),
nasType/NAS_DNN.go (GetDNN).

Each function mirrors the Go control flow; every Go index / slice expression is a checked primitive (`idx`, `slice`,
`sliceFrom`) that yields `panic` out of range, so "never panics" is a real proof obligation. A Go `error` return is `.err`.
Loops carry a fuel argument; running out of fuel is reported as `panic`, so the no-panic theorems also say that the
fuel supplied (a function of the input length) is never exhausted — i.e. the loop terminates because it makes progress.
Text is `Bytes` (Go strings are byte strings).
-/
namespace NasVerif.Model.Convert
open NasVerif

def dash : Bytes := [45]
def charF : UInt8 := 102
def dot : UInt8 := 46

/-- `s[len(s)-1]`: index -1 panics on the empty string -/
def lastByte (s : Bytes) : Outcome UInt8 := if s.length = 0 then .panic else idx s (s.length - 1)

/-- `s[:len(s)-1]`: a negative bound panics on the empty string -/
def chop1 (s : Bytes) : Outcome Bytes := if s.length = 0 then .panic else slice s 0 (s.length - 1)

theorem lastByte_eq {s : Bytes} (h : s ≠ []) : lastByte s = .ok (s.getLast h) := by
  have : 0 < s.length := List.length_pos_iff.mpr h
  rw [lastByte, if_neg (by omega), idx_ok (by omega), List.getLast_eq_getElem, List.getD_eq_getElem?_getD,
    List.getElem?_eq_getElem (by omega), Option.getD_some]

theorem chop1_eq {s : Bytes} (h : s ≠ []) : chop1 s = .ok s.dropLast := by
  have : 0 < s.length := List.length_pos_iff.mpr h
  rw [chop1, if_neg (by omega), slice_zero (by omega), List.dropLast_eq_take]

/-! ## nasConvert/PlmnId.go -/

/-- `PlmnIDToString(nasBuf)` -/
def plmnIDToString (b : Bytes) : Outcome Bytes := do
  let b0 ← idx b 0
  let b1 ← idx b 1
  let b2 ← idx b 2
  let mcc1 := b0 &&& 0x0f
  let mcc2 := (b0 &&& 0xf0) >>> 4
  let mcc3 := b1 &&& 0x0f
  let mnc1 := b2 &&& 0x0f
  let mnc2 := (b2 &&& 0xf0) >>> 4
  let mnc3 := (b1 &&& 0xf0) >>> 4
  let s := hexEnc [(mcc1 <<< 4) ||| mcc2, (mcc3 <<< 4) ||| mnc1, (mnc2 <<< 4) ||| mnc3]
  let c5 ← idx s 5
  if c5 = charF then slice s 0 5 else pure s

/-- a digit obtained with `strconv.Atoi(string(b))`; on error the Go code logs and keeps the default -/
def digitOr (b : UInt8) (dflt : UInt8) : UInt8 := (atoi1 b).getD dflt

/-- `PlmnIDToNas(models.PlmnId{Mcc, Mnc})` -/
def plmnIDToNas (mcc mnc : Bytes) : Outcome Bytes := do
  let a0 ← idx mcc 0
  let a1 ← idx mcc 1
  let a2 ← idx mcc 2
  let n0 ← idx mnc 0
  let n1 ← idx mnc 1
  let d1 := digitOr a0 0
  let d2 := digitOr a1 0
  let d3 := digitOr a2 0
  let m1 := digitOr n0 0
  let m2 := digitOr n1 0
  let m3 ← (if mnc.length = 3 then do let n2 ← idx mnc 2; pure (digitOr n2 0x0f) else pure (0x0f : UInt8))
  pure [(d2 <<< 4) ||| d1, (m3 <<< 4) ||| d3, (m2 <<< 4) ||| m1]

/-! ## nasConvert/AmfId.go -/

/-- `AmfIdToNasWithError(amfId)`: (region, set, pointer) -/
def amfIdToNas (s : Bytes) : Outcome (UInt8 × UInt16 × UInt8) :=
  match hexDec s with
  | none => .err .other
  | some bs =>
    if bs.length ≠ 3 then .err .badLen
    else do
      let b0 ← idx bs 0
      let b1 ← idx bs 1
      let b2 ← idx bs 2
      pure (b0, (b1.toUInt16 <<< 2) + ((b2.toUInt16 &&& 0x00c0) >>> 6), b2 &&& 0x3f)

/-- `AmfIdToModels(region, set, pointer)` -/
def amfIdToModels (region : UInt8) (set : UInt16) (ptr : UInt8) : Bytes :=
  hexEnc [region, (set >>> 2).toUInt8 &&& 0xff, ((set &&& 0x03).toUInt8 <<< 6) + (ptr &&& 0x3f)]

/-! ## nasConvert/MobileIdentity5GS.go -/

/-- `naiToString(buf)` -/
def naiToString (buf : Bytes) : Outcome Bytes :=
  if buf.length < 2 then .err .badLen
  else do
    let nb ← sliceFrom buf 1
    pure (join [ascii "nai", ascii "1", hexEnc nb] dash)

/-- MCC text from octets 2 and 3 of the SUCI / mobile-identity contents (`buf[1]`, `buf[2]`; octet 1 holds the type of identity) -/
def mccText (b1 b2 : UInt8) : Outcome Bytes :=
  slice (hexEnc [rotl4 b1, (b2 &&& 0x0f) <<< 4]) 0 3

/-- MNC text from octets 3 and 4 (`buf[2]`, `buf[3]`) -/
def mncText (b2 b3 : UInt8) : Outcome Bytes := do
  let s := hexEnc [rotl4 b3, ((b2 &&& 0xf0) >>> 4) <<< 4]
  let c ← idx s 2
  if c = charF then slice s 0 2 else slice s 0 3

/-- routing indicator text from octets 5 and 6 (`buf[4]`, `buf[5]`) -/
def routingText (b4 b5 : UInt8) : Outcome Bytes :=
  let s := hexEnc [rotl4 b4, rotl4 b5]
  match indexByte s charF with
  | some i => slice s 0 i
  | none => pure s

/-- scheme output text: `tail` is `buf[8:]` -/
def schemeOutputText (scheme : UInt8) (tail : Bytes) : Outcome Bytes :=
  if fmtHex8 scheme = ascii "0" then do
    let s := hexEnc (tail.map rotl4)
    let c ← lastByte s
    if c = charF then chop1 s else pure s
  else pure (hexEnc tail)

/-- `SuciToStringWithError(buf)`: (suci, plmnId) -/
def suciToString (buf : Bytes) : Outcome (Bytes × Bytes) :=
  if buf.length < 1 then .err .badLen
  else do
    let b0 ← idx buf 0
    if (b0 &&& 0xf0) >>> 4 = 1 then do
      let s ← naiToString buf
      pure (s, [])
    else if buf.length < 9 then .err .badLen
    else do
      let b1 ← idx buf 1
      let b2 ← idx buf 2
      let b3 ← idx buf 3
      let b4 ← idx buf 4
      let b5 ← idx buf 5
      let b6 ← idx buf 6
      let b7 ← idx buf 7
      let mcc ← mccText b1 b2
      let mnc ← mncText b2 b3
      let ri ← routingText b4 b5
      let tail ← sliceFrom buf 8
      let so ← schemeOutputText b6 tail
      pure (join [ascii "suci", ascii "0", mcc, mnc, ri, fmtHex8 b6, fmtDec b7.toNat, so] dash, mcc ++ mnc)

structure GutiText where
  mcc : Bytes
  mnc : Bytes
  amfId : Bytes
  guti : Bytes
deriving DecidableEq, Repr

/-- `GutiToStringWithError(buf)` -/
def gutiToString (buf : Bytes) : Outcome GutiText :=
  if buf.length ≠ 11 then .err .badLen
  else do
    let p ← slice buf 1 4
    let plmn ← plmnIDToString p
    let a ← slice buf 4 7
    let t ← sliceFrom buf 7
    let mcc ← slice plmn 0 3
    let mnc ← sliceFrom plmn 3
    pure { mcc := mcc, mnc := mnc, amfId := hexEnc a, guti := plmn ++ hexEnc a ++ hexEnc t }

def atoiAt (s : Bytes) (i : Nat) : Outcome UInt8 := do
  let c ← idx s i
  match atoi1 c with
  | some d => pure d
  | none => .err .other

/-- the read-modify-write shape of the generated nasType setters: `(o & keep) + ((v & m) << sh)` -/
def setBits (o keep v m sh : UInt8) : UInt8 := (o &&& keep) + ((v &&& m) <<< sh)

/-- `copy(dst[0:4], src)` into a zeroed four-octet window -/
def copy4 (src : Bytes) : Bytes := (src.take 4) ++ List.replicate (4 - src.length) 0

/-- `GutiToNasWithError(guti)`: the eleven octets of the GUTI5G value (`Len` is set to 11, `Iei` stays 0) -/
def gutiToNas (g : Bytes) : Outcome Bytes :=
  if g.length ≠ 19 ∧ g.length ≠ 20 then .err .badLen
  else do
    let mcc1 ← atoiAt g 0
    let mcc2 ← atoiAt g 1
    let mcc3 ← atoiAt g 2
    let mnc1 ← atoiAt g 3
    let mnc2 ← atoiAt g 4
    let (mnc3, amfS, tmsiS) ← (if g.length = 20 then do
        let d ← atoiAt g 5
        let a ← slice g 6 12
        let t ← sliceFrom g 12
        pure (d, a, t)
      else do
        let a ← slice g 5 11
        let t ← sliceFrom g 11
        pure ((0x0f : UInt8), a, t))
    let (region, set, ptr) ← amfIdToNas amfS
    match hexDec tmsiS with
    | none => .err .other
    | some tb =>
      let o0 := setBits (setBits (setBits 0 247 0 1 3) 15 15 15 4) 248 2 7 0   -- SetSpare(0), SetSpare2(15), SetTypeOfIdentity(2)
      let o1 := setBits (setBits 0 240 mcc1 15 0) 15 mcc2 15 4
      let o2 := setBits (setBits 0 240 mcc3 15 0) 15 mnc3 15 4
      let o3 := setBits (setBits 0 240 mnc1 15 0) 15 mnc2 15 4
      let o5 : UInt8 := (set >>> 2).toUInt8 &&& 255
      let o6a : UInt8 := setBits 0 63 (set &&& 3).toUInt8 255 6
      let o6 : UInt8 := (o6a &&& 192) + (ptr &&& 63)
      pure ([o0, o1, o2, o3, region, o5, o6] ++ copy4 tb)

/-- the loop of `PeiToStringWithError` / `peiToString`: `last` is the pending high-nibble octet -/
def peiDigits : UInt8 → Bytes → Bytes
  | last, [] => [last]
  | last, o :: r => (last + (o &&& 0x0f)) :: peiDigits (o &&& 0xf0) r

@[simp] theorem peiDigits_length (l : UInt8) (r : Bytes) : (peiDigits l r).length = r.length + 1 := by
  induction r generalizing l with
  | nil => rfl
  | cons o r ih => simp [peiDigits, ih]

/-- digits of an IMEI / IMEISV (shared by nasConvert.PeiToStringWithError and nasType.peiToString); needs `buf ≠ []` -/
def peiDigitText (buf : Bytes) : Outcome Bytes := do
  let b0 ← idx buf 0
  let rest ← sliceFrom buf 1
  let s := hexEnc (peiDigits (b0 &&& 0xf0) rest)
  let s1 ← chop1 s
  if (b0 &&& 0x08) >>> 3 = 0 then chop1 s1 else pure s1

/-- `PeiToStringWithError(buf)` -/
def peiToString (buf : Bytes) : Outcome Bytes :=
  if buf.length < 1 then .err .badLen
  else do
    let b0 ← idx buf 0
    let pre := if b0 &&& 0x07 = 0x03 then ascii "imei-" else ascii "imeisv-"
    let d ← peiDigitText buf
    pure (pre ++ d)

/-! ## nasConvert/Nssai.go, Snssai.go -/

structure Snssai where
  sst : UInt8
  sd  : Option Bytes        -- three octets (printed as hex text), `none` = empty string
deriving DecidableEq, Repr

structure MappedSnssai where
  serving : Snssai
  home    : Option Snssai
deriving DecidableEq, Repr

/-- `snssaiToModels(lengthOfSnssaiContents, buf)` -/
def snssaiToModels (l : UInt8) (buf : Bytes) : Outcome MappedSnssai :=
  if buf.length < l.toNat + 1 then .err .badLen
  else if l = 1 then do
    let s ← idx buf 1
    pure ⟨⟨s, none⟩, none⟩
  else if l = 2 then do
    let s ← idx buf 1
    let h ← idx buf 2
    pure ⟨⟨s, none⟩, some ⟨h, none⟩⟩
  else if l = 4 then do
    let s ← idx buf 1
    let sd ← slice buf 2 5
    pure ⟨⟨s, some sd⟩, none⟩
  else if l = 5 then do
    let s ← idx buf 1
    let sd ← slice buf 2 5
    let h ← idx buf 5
    pure ⟨⟨s, some sd⟩, some ⟨h, none⟩⟩
  else if l = 8 then do
    let s ← idx buf 1
    let sd ← slice buf 2 5
    let h ← idx buf 5
    let hsd ← slice buf 6 9
    pure ⟨⟨s, some sd⟩, some ⟨h, some hsd⟩⟩
  else .err .badLen

/-- the five length octets of Table 9.11.2.8.1, which are those `snssaiToModels` accepts: `l + 1` in `reqNssaiLoop` does not wrap -/
theorem snssaiLen_succ {l : UInt8} (h : l = 1 ∨ l = 2 ∨ l = 4 ∨ l = 5 ∨ l = 8) : (l + 1).toNat = l.toNat + 1 := by
  rcases h with rfl | rfl | rfl | rfl | rfl <;> rfl

/-- the loop of `RequestedNssaiToModels`; `offset += int(l + 1)` is a `uint8` addition -/
def reqNssaiLoop : Nat → Nat → Bytes → Nat → List MappedSnssai → Outcome (List MappedSnssai)
  | 0, _, _, _, _ => .panic                       -- out of fuel
  | fuel + 1, lenOfBuf, buf, offset, acc =>
    if offset < lenOfBuf then do
      let l ← idx buf offset
      let tail ← sliceFrom buf offset
      let s ← snssaiToModels l tail
      reqNssaiLoop fuel lenOfBuf buf (offset + (l + 1).toNat) (acc ++ [s])
    else pure acc

/-- `RequestedNssaiToModels(ie)` with `ie.Len = len`, `ie.Buffer = buf` -/
def requestedNssaiToModels (len : Nat) (buf : Bytes) : Outcome (List MappedSnssai) :=
  reqNssaiLoop (len + 1) len buf 0 []

/-- `SnssaiToModels(ie)` for an SNSSAI value with `Len` and eight octets -/
def snssaiIeToModels (len : UInt8) (oct : Bytes) : Snssai :=
  ⟨oct.getD 0 0, if len = 4 then some ((oct.take 4).drop 1) else none⟩

/-- appended S-NSSAI SD octets: `hex.DecodeString` failure only logs -/
def sdBytes (sd : Bytes) : Bytes := (hexDec sd).getD []

/-- `SnssaiToNas(models.Snssai{Sst, Sd})`; `sst` already truncated to uint8 -/
def snssaiToNas (sst : UInt8) (sd : Bytes) : Bytes :=
  if sd = [] then [0x01, sst] else [0x04, sst] ++ sdBytes sd

/-- `RejectedSnssaiToNas(snssai, cause)` -/
def rejectedSnssaiToNas (sst : UInt8) (sd : Bytes) (cause : UInt8) : Bytes :=
  if sd = [] then [((0x01 : UInt8) <<< 4) + cause, sst] else [((0x04 : UInt8) <<< 4) + cause, sst] ++ sdBytes sd

/-- `RejectedNssaiToNas(inPlmn, inTa)`: (Len, Buffer); Buffer is `make(Len)` then `copy` -/
def rejectedNssaiToNas (inPlmn inTa : List (UInt8 × Bytes)) : Nat × Bytes :=
  let all := (inPlmn.flatMap fun (s, d) => rejectedSnssaiToNas s d 0) ++ (inTa.flatMap fun (s, d) => rejectedSnssaiToNas s d 1)
  let len := all.length % 256
  (len, all.take len)

/-! ## nasConvert/TaiList.go, ServiceAreaList.go, Ladn.go -/

structure Tai where
  mcc : Bytes
  mnc : Bytes
  tac : Bytes          -- hex text
deriving DecidableEq, Repr

def taiBodySame : List Tai → Bytes
  | [] => []
  | t :: r => (hexDec t.tac).getD [] ++ taiBodySame r

def taiBodyMixed : List Tai → Outcome Bytes
  | [] => pure []
  | t :: r => do
    let p ← plmnIDToNas t.mcc t.mnc
    let rest ← taiBodyMixed r
    match hexDec t.tac with
    | some tb => pure (p ++ tb ++ rest)
    | none => pure rest

/-- `TaiListToNas(taiList)` (every `PlmnId` pointer non-nil) -/
def taiListToNas (l : List Tai) : Outcome Bytes :=
  match l with
  | [] => .panic                                   -- taiList[0]
  | t0 :: _ =>
    let mixed := l.any fun t => decide (t.mcc ≠ t0.mcc ∨ t.mnc ≠ t0.mnc)
    let n : UInt8 := UInt8.ofNat l.length - 1
    if mixed then do
      let b ← taiBodyMixed l
      pure ((((2 : UInt8) <<< 5) + n) :: b)
    else do
      let p ← plmnIDToNas t0.mcc t0.mnc
      pure ((((0 : UInt8) <<< 5) + n) :: (p ++ taiBodySame l))

def tacsOf : List Bytes → Bytes × Nat
  | [] => ([], 0)
  | t :: r =>
    let (b, n) := tacsOf r
    match hexDec t with
    | some tb => (tb ++ b, n + 1)
    | none => (b, n)

/-- `PartialServiceAreaListToNas(plmn, restriction)`; `allowed` = RestrictionType is ALLOWED_AREAS;
`tacs` = the TAC strings of all areas in order -/
def partialServiceAreaListToNas (mcc mnc : Bytes) (allowed : Bool) (tacs : List Bytes) : Outcome Bytes := do
  let allowedType : UInt8 := if allowed then 0 else 1
  let (tl, n) := tacsOf tacs
  let num : UInt8 := if n > 0 then UInt8.ofNat (n - 1) &&& 0x1f else 0
  let first := ((allowedType <<< 7) &&& 0x80) + num
  let p ← plmnIDToNas mcc mnc
  pure (first :: (p ++ tl))

/-- `LadnToNas(dnn, taiLists)` -/
def ladnToNas (dnn : Bytes) (l : List Tai) : Outcome Bytes := do
  let t ← taiListToNas l
  pure (UInt8.ofNat dnn.length :: dnn ++ (UInt8.ofNat t.length :: t))

/-- the loop of `LadnToModels` -/
def ladnLoop : Nat → Bytes → Nat → List Bytes → Outcome (List Bytes)
  | 0, _, _, _ => .panic
  | fuel + 1, buf, off, acc =>
    if off < buf.length then do
      let l ← idx buf off
      if off + 1 + l.toNat > buf.length then pure acc
      else do
        let d ← slice buf (off + 1) (off + 1 + l.toNat)
        ladnLoop fuel buf (off + 1 + l.toNat) (acc ++ [d])
    else pure acc

def ladnToModels (buf : Bytes) : Outcome (List Bytes) := ladnLoop (buf.length + 1) buf 0 []

/-! ## nasConvert/UESecurityCapability.go, PSI.go, UPUInfo.go -/

/-- `UESecurityCapabilityToByteArray(buf)`: first octets of nea, nia, eea, eia -/
def ueSecCapToByteArray (buf : Bytes) : Outcome (UInt8 × UInt8 × UInt8 × UInt8) :=
  if buf.length < 2 then pure (0, 0, 0, 0)
  else do
    let a ← idx buf 0
    let b ← idx buf 1
    let c ← (if buf.length > 2 then idx buf 2 else pure 0)
    let d ← (if buf.length > 3 then idx buf 3 else pure 0)
    pure (a <<< 1, b <<< 1, if buf.length > 2 then c <<< 1 else 0, if buf.length > 3 then d <<< 1 else 0)

def psiBits : Nat → Nat → Bytes → Outcome (List Bool)
  | 0, _, _ => pure []
  | n + 1, i, buf => do
    let o ← idx buf (i / 8)
    let rest ← psiBits n (i + 1) buf
    pure (((o &&& ((1 : UInt8) <<< UInt8.ofNat (i % 8))) > 0) :: rest)

/-- `PSIToBooleanArray(buf)` with checked indexing -/
def psiToBooleanArray (buf : Bytes) : Outcome (List Bool) :=
  if buf.length < 2 then pure (List.replicate 16 false) else psiBits 16 0 buf

/-- `UpuAckToModels(buf)` -/
def upuAckToModels (buf : Bytes) : Outcome Bytes :=
  if buf.length ≠ 17 then .err .badLen
  else do
    let b0 ← idx buf 0
    if b0 ≠ 0x01 then .err .other
    else do
      let t ← sliceFrom buf 1
      pure (hexEnc t)

/-! ## nasType/NAS_DNN.go -/

/-- the loop of `rfc1035tofqdn`: ReadByte, then `Next(labelLen)` (at most what is left), then "." -/
def dnnLoop : Nat → Bytes → Bytes → Outcome Bytes
  | 0, _, _ => .panic
  | fuel + 1, rest, acc =>
    match rest with
    | [] => pure acc
    | l :: r => dnnLoop fuel (r.drop l.toNat) (acc ++ r.take l.toNat ++ [dot])

/-- `DNN.GetDNN()` on `Buffer = buf` -/
def getDNN (buf : Bytes) : Outcome Bytes := do
  let f ← dnnLoop (buf.length + 1) buf []
  if f = [] then pure [] else chop1 f

/-- `strings.Split(s, ".")` on the bytes of `s` (`cur` = the label being collected): always at least one label -/
def splitDot : Bytes → Bytes → List Bytes
  | [], cur => [cur]
  | c :: r, cur => if c = dot then cur :: splitDot r [] else splitDot r (cur ++ [c])

/-- `fqdnToRfc1035`: every label behind its length octet; a label over 62 octets or a result over 100 octets is an error -/
def fqdnToRfc1035 (s : Bytes) : Outcome Bytes :=
  let segs := splitDot s []
  if segs.any (fun g => g.length > 62) then .err .other
  else
    let b := segs.flatMap fun g => UInt8.ofNat g.length :: g
    if b.length > 100 then .err .other else pure b

/-- `DNN.SetDNN(s)` on an element whose `Buffer` is `old`: the new `Buffer` (`Len` is its length); unchanged on error -/
def setDNN (old s : Bytes) : Bytes :=
  match fqdnToRfc1035 s with
  | .ok b => b
  | _ => old

/-! ## nasType/NAS_MobileIdentity5GS.go -/

inductive IdType | suci | guti | imei | stmsi | imeisv
deriving DecidableEq, Repr

def IdType.text : IdType → Bytes
  | .suci => ascii "SUCI" | .guti => ascii "5G-GUTI" | .imei => ascii "IMEI" | .stmsi => ascii "5G-S-TMSI"
  | .imeisv => ascii "IMEISV"

/-- `GetTypeOfIdentity()` -/
def miType (buf : Bytes) : Outcome IdType :=
  if buf.length < 1 then .err .empty
  else do
    let b0 ← idx buf 0
    let t := b0 &&& 0x07
    if t = 0 then .err .other
    else if t = 1 then pure .suci
    else if t = 2 then pure .guti
    else if t = 3 then pure .imei
    else if t = 4 then pure .stmsi
    else if t = 5 then pure .imeisv
    else pure .suci

/-- `idType == x && err == nil` (a returned error is not a panic) -/
def miIs (buf : Bytes) (x : IdType) : Outcome Bool :=
  match miType buf with
  | .ok t => pure (t = x)
  | .err _ => pure false
  | .panic => .panic

/-- `GetMCC()` -/
def miMCC (buf : Bytes) : Outcome Bytes :=
  if buf.length < 4 then pure []
  else do
    let b1 ← idx buf 1
    let b2 ← idx buf 2
    mccText b1 b2

/-- `GetMNC()` -/
def miMNC (buf : Bytes) : Outcome Bytes :=
  if buf.length < 4 then pure []
  else do
    let b2 ← idx buf 2
    let b3 ← idx buf 3
    mncText b2 b3

/-- `GetPlmnID()` -/
def miPlmnID (buf : Bytes) : Outcome Bytes := do
  let a ← miMCC buf
  let b ← miMNC buf
  pure (a ++ b)

/-- nasType `naiToString` (no length guard of its own) -/
def miNai (buf : Bytes) : Outcome Bytes := do
  let nb ← sliceFrom buf 1
  pure (join [ascii "nai", ascii "1", hexEnc nb] dash)

/-- `GetSUCI()` -/
def miSUCI (buf : Bytes) : Outcome Bytes := do
  let isS ← miIs buf .suci
  if ¬ isS then pure []
  else do
    let b0 ← idx buf 0
    if (b0 &&& 0xf0) >>> 4 = 1 then miNai buf
    else if buf.length < 9 then pure []
    else do
      let mcc ← miMCC buf
      let mnc ← miMNC buf
      let b4 ← idx buf 4
      let b5 ← idx buf 5
      let b6 ← idx buf 6
      let b7 ← idx buf 7
      let ri ← routingText b4 b5
      let tail ← sliceFrom buf 8
      let so ← schemeOutputText b6 tail
      pure (join [ascii "suci", ascii "0", mcc, mnc, ri, fmtHex8 b6, fmtDec b7.toNat, so] dash)

/-- `GetAmfID()` -/
def miAmfID (buf : Bytes) : Outcome Bytes :=
  if buf.length < 7 then pure [] else do
    let s ← slice buf 4 7
    pure (hexEnc s)

/-- `GetAmfRegionID()` -/
def miAmfRegionID (buf : Bytes) : Outcome Bytes :=
  if buf.length < 5 then pure [] else do
    let s ← slice buf 4 5
    pure (hexEnc s)

/-- `GetAmfSetID()` -/
def miAmfSetID (buf : Bytes) : Outcome Bytes := do
  let g ← miIs buf .guti
  let s ← miIs buf .stmsi
  let start := if s then 1 else if g then 5 else 0
  if buf.length < start + 2 then pure []
  else do
    let a ← idx buf start
    let b ← idx buf (start + 1)
    let v : UInt16 := (a.toUInt16 <<< 2) + ((b &&& 0xfc).toUInt16 >>> 6)
    pure (fmtDec v.toNat)

/-- `GetAmfPointer()` -/
def miAmfPointer (buf : Bytes) : Outcome Bytes := do
  let g ← miIs buf .guti
  let s ← miIs buf .stmsi
  let start := if s then 2 else if g then 6 else 0
  if buf.length < start + 1 then pure []
  else do
    let a ← idx buf start
    pure (fmtDec (a &&& 0x3f).toNat)

/-- `Get5GTMSI()` -/
def mi5GTMSI (buf : Bytes) : Outcome Bytes := do
  let g ← miIs buf .guti
  let s ← miIs buf .stmsi
  if buf.length < 7 then pure []
  else if g then do
    let t ← sliceFrom buf 7
    pure (hexEnc t)
  else if s then do
    let t ← slice buf 3 7
    pure (hexEnc t)
  else pure []

/-- `Get5GGUTI()` -/
def mi5GGUTI (buf : Bytes) : Outcome Bytes := do
  let a ← miMCC buf
  let b ← miMNC buf
  let c ← miAmfID buf
  let d ← mi5GTMSI buf
  pure (a ++ b ++ c ++ d)

/-- `GetIMEI()` -/
def miIMEI (buf : Bytes) : Outcome Bytes := do
  let i ← miIs buf .imei
  if i then do
    let d ← peiDigitText buf
    pure (ascii "imei-" ++ d)
  else pure []

/-- `GetIMEISV()` -/
def miIMEISV (buf : Bytes) : Outcome Bytes := do
  let i ← miIs buf .imeisv
  if i then do
    let d ← peiDigitText buf
    pure (ascii "imeisv-" ++ d)
  else pure []

/-- `Get5GSTMSI()`: the text (the type string is constant) -/
def mi5GSTMSI (buf : Bytes) : Outcome Bytes :=
  if buf.length < 3 then .err .badLen
  else do
    let p ← slice buf 1 3
    let t ← mi5GTMSI buf
    pure (hexEnc p ++ t)

/-- `GetMobileIdentity()`: (identity text, type text) -/
def miMobileIdentity (buf : Bytes) : Outcome (Bytes × Bytes) :=
  match miType buf with
  | .err e => .err e
  | .panic => .panic
  | .ok t => do
    let s ← (match t with
      | .suci => miSUCI buf
      | .guti => mi5GGUTI buf
      | .imei => miIMEI buf
      | .stmsi => mi5GTMSI buf
      | .imeisv => miIMEISV buf)
    pure (s, t.text)

end NasVerif.Model.Convert

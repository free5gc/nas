import NasVerif.Prelude.Basic
import NasVerif.Model.Snow3g
import NasVerif.Model.Zuc
import NasVerif.Spec.AES
/-!
# Model of /repo/security/security.go (function by function, including index panics)

`[]byte` = `List UInt8`; `uint32`/`uint64` values that only ever hold lengths and indices are `Nat`, so the model does not
wrap where the Go code does (`length+31` for `length > 2^32-32` in NEA1/NEA3/NIA3; `uint32(len(payload))*8` in NASEncrypt /
NASMacCalculate for 2^29 octets or more). No theorem carries a bound on the length: they speak of the code below those
lengths only.
AES is the parameter `E : key → block → block` (`crypto/aes` + `cipher.NewCTR` + `github.com/aead/cmac` are modelled by
`Spec.AES.ctr` / `Spec.AES.cmac` over `E`).
-/
namespace NasVerif.Model.Security
open NasVerif
abbrev W32 := BitVec 32
abbrev W64 := BitVec 64

/-! ## helpers -/

def be32 (b : Bytes) (off : Nat) : W32 :=
  BitVec.ofNat 32 ((b.getD off 0).toNat * 2^24 + (b.getD (off+1) 0).toNat * 2^16 + (b.getD (off+2) 0).toNat * 2^8 + (b.getD (off+3) 0).toNat)

def put32 (w : W32) : Bytes :=
  [UInt8.ofNat (w.toNat / 2^24), UInt8.ofNat (w.toNat / 2^16), UInt8.ofNat (w.toNat / 2^8), UInt8.ofNat w.toNat]

/-- `byte((w >> (8*(3-j))) & 0xff)` -/
def ksByte (w : W32) (j : Nat) : UInt8 := UInt8.ofNat ((w >>> (8 * (3 - j))).toNat % 256)

/-- `for i := lo; i < hi; i++ { st = f i st }` with early exit on panic/error -/
def forRange {α} : (n : Nat) → (i : Nat) → (Nat → α → Outcome α) → α → Outcome α
  | 0, _, _, a => .ok a
  | n+1, i, f, a =>
    match f i a with
    | .ok a' => forRange n (i+1) f a'
    | .err e => .err e
    | .panic => .panic

/-- `obs[idx] = ibs[idx] ^ kb` with Go's bounds checks (`obs` and `ibs` have the same length) -/
def xorAt (ibs : Bytes) (idx : Nat) (kb : UInt8) (obs : Bytes) : Outcome Bytes :=
  if idx < ibs.length ∧ idx < obs.length then .ok (obs.set idx (ibs.getD idx 0 ^^^ kb)) else .panic

def keyWords (ck : Bytes) : List W32 := (List.range 4).map (fun i => be32 ck (4 * (3 - i)))

/-! ## NEA1 (128-EEA1, SNOW 3G) -/

def NEA1 (ck : Bytes) (countC bearer direction : W32) (ibs : Bytes) (length : Nat) : Outcome Bytes :=
  let k := keyWords ck
  let w0 := (bearer <<< 27) ||| (direction <<< 26)
  let iv := [w0, countC, w0, countC]
  let l := (length + 31) / 32
  let r := length % 32
  let ks := Snow3g.GetKeyStream k iv l
  let ks := if r ≠ 0 then ks.set (l - 1) (ks.getD (l - 1) 0 &&& ~~~ ((1#32 <<< (32 - r)) - 1#32)) else ks
  let word (i : Nat) (n : Nat) (obs : Bytes) : Outcome Bytes :=
    forRange n 0 (fun j obs => if i < ks.length then xorAt ibs (4*i+j) (ksByte (ks.getD i 0) j) obs else .panic) obs
  match forRange (length / 32) 0 (fun i obs => word i 4 obs) (List.replicate ibs.length 0) with
  | .ok obs => if r ≠ 0 then word (length / 32) ((r + 7) / 8) obs else .ok obs
  | o => o

/-! ## NEA2 / NIA2 (AES) -/

def counterBlock (count : W32) (bearer direction : UInt8) : Bytes :=
  put32 count ++ [(bearer <<< 3) ||| (direction <<< 2)] ++ List.replicate 11 0

def NEA2 (E : Bytes → Bytes → Bytes) (key : Bytes) (count : W32) (bearer direction : UInt8) (ibs : Bytes) : Outcome Bytes :=
  .ok (Spec.AES.ctr (E key) (counterBlock count bearer direction) ibs)

def NIA2 (E : Bytes → Bytes → Bytes) (key : Bytes) (count : W32) (bearer direction : UInt8) (msg : Bytes) : Outcome Bytes :=
  let m := put32 count ++ [(bearer <<< 3) ||| (direction <<< 2), 0, 0, 0] ++ msg
  .ok ((Spec.AES.cmac (E key) m).take 4)

/-! ## NEA3 (128-EEA3, ZUC) -/

def toBV8 (b : Bytes) : List (BitVec 8) := b.map (fun x => BitVec.ofNat 8 x.toNat)

def NEA3 (ck : Bytes) (count : W32) (bearer direction : UInt8) (ibs : Bytes) (length : Nat) : Outcome Bytes :=
  let iv8 := put32 count ++ [(bearer <<< 3) ||| (direction <<< 2), 0, 0, 0]
  let iv := iv8 ++ iv8
  let l := (length + 31) / 32
  let stream := Zuc.Zuc (toBV8 ck) (toBV8 iv) l
  let nb := (length + 7) / 8
  let step (i : Nat) (obs : Bytes) : Outcome Bytes :=
    forRange 4 0 (fun j obs => if i*4+j < nb then xorAt ibs (i*4+j) (ksByte (stream.getD i 0) j) obs else .ok obs) obs
  match forRange l 0 step (List.replicate ibs.length 0) with
  | .ok obs =>
    let obs' : Outcome Bytes :=
      if length % 8 ≠ 0 then
        if length / 8 < obs.length then .ok (obs.set (length / 8) (obs.getD (length / 8) 0 &&& (0xff <<< UInt8.ofNat (8 - length % 8))))
        else .panic
      else .ok obs
    match obs' with
    | .ok obs => .ok (obs.take (length / 8 + 1) ++ List.replicate (obs.length - (length / 8 + 1)) 0)
    | o => o
  | o => o

/-! ## NIA1 (128-EIA1, SNOW 3G): GF(2^64) arithmetic -/

def mulx (V c : W64) : W64 := if V &&& 0x8000000000000000#64 != 0#64 then (V <<< 1) ^^^ c else V <<< 1

def mulxPow (V : W64) : Nat → W64 → W64
  | 0, _ => V
  | i+1, c => mulx (mulxPow V i c) c

def mulLoop (V P c : W64) : Nat → Nat → W64 → W64
  | 0, _, rst => rst
  | n+1, i, rst => mulLoop V P c n (i+1) (if (P >>> i) &&& 1#64 == 1#64 then rst ^^^ mulxPow V i c else rst)

def mul (V P c : W64) : W64 := mulLoop V P c 64 0 0#64

def be64 (b : Bytes) : W64 := BitVec.ofNat 64 (b.foldl (fun a x => a * 256 + x.toNat) 0)

/-- `binary.BigEndian.Uint64(b)`: needs 8 octets -/
def uint64At (b : Bytes) : Outcome W64 := if b.length < 8 then .panic else .ok (be64 (b.take 8))

/-- one full 64-bit block of the NIA1 loop: `EVAL = mul(EVAL ^ M_i, P, c)` with `M_i = binary.BigEndian.Uint64(msg[8*i:])` -/
def nia1Step (msg : Bytes) (P c : W64) (i : Nat) (ev : W64) : Outcome W64 :=
  if 8 * i ≤ msg.length then
    match uint64At (msg.drop (8 * i)) with
    | .ok M => .ok (mul (ev ^^^ M) P c)
    | .err e => .err e
    | .panic => .panic
  else .panic

/-- the block loop of NIA1 (D-2 full blocks, then the zero-padded last block); nothing to do for LENGTH = 0 (fix 8a9688c) -/
def nia1Blocks (msg : Bytes) (length D : Nat) (P c : W64) : Outcome W64 :=
  if length > 0 then
    match forRange (D - 2) 0 (nia1Step msg P c) 0#64 with
    | .ok ev =>
      if 8 * (D - 2) ≤ msg.length then
        let tmp := (msg.drop (8 * (D - 2))).take 8
        let tmp := tmp ++ List.replicate (8 - tmp.length) 0
        .ok (mul (ev ^^^ be64 tmp) P c)
      else .panic
    | o => o
  else .ok 0#64

def NIA1 (ik : Bytes) (countI : W32) (bearer : UInt8) (direction : W32) (msg : Bytes) (length : Nat) : Outcome Bytes :=
  let fresh : W32 := BitVec.ofNat 32 bearer.toNat <<< 27
  let k := keyWords ik
  let iv := [fresh ^^^ (direction <<< 15), countI ^^^ (direction <<< 31), fresh, countI]
  let D := (length + 63) / 64 + 1
  let z := Snow3g.GetKeyStream k iv 5
  let zz (i : Nat) : W64 := (z.getD i 0).setWidth 64
  let P := (zz 0 <<< 32) ||| zz 1
  let Q := (zz 2 <<< 32) ||| zz 3
  let c : W64 := 0x1b#64
  let blocks : Outcome W64 := nia1Blocks msg length D P c
  match blocks with
  | .ok ev =>
    let ev := ev ^^^ BitVec.ofNat 64 length
    let ev := mul ev Q c
    let macI : W32 := (ev >>> 32).setWidth 32 ^^^ z.getD 4 0
    .ok (put32 macI)
  | .err e => .err e
  | .panic => .panic

/-! ## NIA3 (128-EIA3, ZUC) -/

def getWord (stream : List W32) (i : Nat) : Outcome W32 :=
  let b := i % 32
  let loc := i / 32
  if b = 0 then
    if loc < stream.length then .ok (stream.getD loc 0) else .panic
  else
    if loc + 1 < stream.length then .ok ((stream.getD loc 0 <<< b) ||| (stream.getD (loc+1) 0 >>> (32 - b))) else .panic

/-- one iteration of the bit loop of `genMac`: `if m[i/8] & (1 << (7 - i%8)) != 0 { t ^= getWord(stream, i) }` -/
def genMacStep (m : Bytes) (stream : List W32) (i : Nat) (t : W32) : Outcome W32 :=
  if i / 8 < m.length then
    if m.getD (i / 8) 0 &&& (1 <<< UInt8.ofNat (7 - i % 8)) != 0 then
      match getWord stream i with
      | .ok w => .ok (t ^^^ w)
      | .err e => .err e
      | .panic => .panic
    else .ok t
  else .panic

/-- `t ^= getWord(stream, blength); mac = t ^ getWord(stream, 32*(l-1))` -/
def genMacFin (stream : List W32) (blength : Nat) (t : W32) : Outcome Bytes :=
  match getWord stream blength, getWord stream (32 * (stream.length - 1)) with
  | .ok a, .ok b => .ok (put32 (t ^^^ a ^^^ b))
  | _, _ => .panic

def genMac (m : Bytes) (stream : List W32) (blength : Nat) : Outcome Bytes :=
  match forRange blength 0 (genMacStep m stream) 0#32 with
  | .ok t => genMacFin stream blength t
  | .err e => .err e
  | .panic => .panic

def NIA3 (ik : Bytes) (count : W32) (bearer direction : UInt8) (msg : Bytes) (length : Nat) : Outcome Bytes :=
  let c := put32 count
  let iv : Bytes :=
    [c.getD 0 0, c.getD 1 0, c.getD 2 0, c.getD 3 0, (bearer <<< 3) &&& 0xF8, 0, 0, 0,
     (direction <<< 7) ^^^ c.getD 0 0, c.getD 1 0, c.getD 2 0, c.getD 3 0, (bearer <<< 3) &&& 0xF8, 0, (direction <<< 7) ^^^ 0, 0]
  let l := (length + 31) / 32 + 2
  genMac msg (Zuc.Zuc (toBV8 ik) (toBV8 iv) l) length

/-! ## the API: NASEncrypt / NASMacCalculate -/

/-- result of the in-place API: the error (if any) and the payload afterwards; `none` payload = nil slice -/
structure EncResult where
  err     : Bool
  payload : Option Bytes
deriving DecidableEq, Repr

def NASEncrypt (E : Bytes → Bytes → Bytes) (algo : UInt8) (key : Bytes) (count : W32) (bearer direction : UInt8)
    (payload : Option Bytes) : Outcome EncResult :=
  if bearer > 0x1f then .ok ⟨true, payload⟩
  else if direction > 1 then .ok ⟨true, payload⟩
  else match payload with
  | none => .ok ⟨true, none⟩
  | some p =>
    let fin (o : Outcome Bytes) : Outcome EncResult :=
      match o with
      | .ok out => .ok ⟨false, some (out.take p.length ++ p.drop out.length)⟩   -- copy(payload, output)
      | .err _ => .ok ⟨true, some p⟩
      | .panic => .panic
    if algo = 0 then .ok ⟨false, some p⟩
    else if algo = 1 then fin (NEA1 key count (BitVec.ofNat 32 bearer.toNat) (BitVec.ofNat 32 direction.toNat) p (p.length * 8))
    else if algo = 2 then fin (NEA2 E key count bearer direction p)
    else if algo = 3 then fin (NEA3 key count bearer direction p (p.length * 8))
    else .ok ⟨true, some p⟩

/-- `(mac, err)`; `none` = error -/
def NASMacCalculate (E : Bytes → Bytes → Bytes) (algo : UInt8) (key : Bytes) (count : W32) (bearer direction : UInt8)
    (msg : Option Bytes) : Outcome (Option Bytes) :=
  if bearer > 0x1f then .ok none
  else if direction > 1 then .ok none
  else match msg with
  | none => .ok none
  | some m =>
    let fin (o : Outcome Bytes) : Outcome (Option Bytes) :=
      match o with
      | .ok mac => .ok (some mac)
      | .err _ => .ok none
      | .panic => .panic
    if algo = 0 then .ok (some [0, 0, 0, 0])
    else if algo = 1 then fin (NIA1 key count bearer (BitVec.ofNat 32 direction.toNat) m (m.length * 8))
    else if algo = 2 then fin (NIA2 E key count bearer direction m)
    else if algo = 3 then fin (NIA3 key count bearer direction m (m.length * 8))
    else .ok none

end NasVerif.Model.Security

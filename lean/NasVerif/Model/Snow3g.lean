import NasVerif.Gen.CryptoTables
/-!
# Model of /repo/security/snow3g/snow3g.go (function by function)

State = the struct `snow3g{lfsr [16]uint32; fsm [3]uint32}` as a value; methods return the new state. The S-box
tables are the ones regenerated from the source (`Gen.Crypto.snow_sr`, `snow_sq`).
-/
namespace NasVerif.Model.Snow3g
abbrev W8 := BitVec 8
abbrev W32 := BitVec 32

/-- `sr[i]` / `sq[i]` for an index that the Go code keeps below 256 (`& 0xff`) -/
def sr (i : W32) : W8 := BitVec.ofNat 8 (NasVerif.Gen.Crypto.snow_sr.getD i.toNat 0)
def sq (i : W32) : W8 := BitVec.ofNat 8 (NasVerif.Gen.Crypto.snow_sq.getD i.toNat 0)

def mulx (V c : W8) : W8 := if V &&& 0x80#8 != 0#8 then (V <<< 1) ^^^ c else V <<< 1

/-- recursion on `i` (a byte in Go) as structural recursion on its value -/
def mulxPow (V : W8) : Nat → W8 → W8
  | 0, _ => V
  | i+1, c => mulx (mulxPow V i c) c

def u32 (b : W8) : W32 := b.setWidth 32

def s1 (w : W32) : W32 :=
  let w0 := (w >>> 24) &&& 0xff#32
  let w1 := (w >>> 16) &&& 0xff#32
  let w2 := (w >>> 8) &&& 0xff#32
  let w3 := w &&& 0xff#32
  let r0 := u32 (mulx (sr w0) 0x1b#8 ^^^ sr w1 ^^^ sr w2 ^^^ mulx (sr w3) 0x1b#8 ^^^ sr w3)
  let r1 := u32 (mulx (sr w0) 0x1b#8 ^^^ sr w0 ^^^ mulx (sr w1) 0x1b#8 ^^^ sr w2 ^^^ sr w3)
  let r2 := u32 (sr w0 ^^^ mulx (sr w1) 0x1b#8 ^^^ sr w1 ^^^ mulx (sr w2) 0x1b#8 ^^^ sr w3)
  let r3 := u32 (sr w0 ^^^ sr w1 ^^^ mulx (sr w2) 0x1b#8 ^^^ sr w2 ^^^ mulx (sr w3) 0x1b#8)
  (r0 <<< 24) ||| (r1 <<< 16) ||| (r2 <<< 8) ||| r3

def s2 (w : W32) : W32 :=
  let w0 := (w >>> 24) &&& 0xff#32
  let w1 := (w >>> 16) &&& 0xff#32
  let w2 := (w >>> 8) &&& 0xff#32
  let w3 := w &&& 0xff#32
  let r0 := u32 (mulx (sq w0) 0x69#8 ^^^ sq w1 ^^^ sq w2 ^^^ mulx (sq w3) 0x69#8 ^^^ sq w3)
  let r1 := u32 (mulx (sq w0) 0x69#8 ^^^ sq w0 ^^^ mulx (sq w1) 0x69#8 ^^^ sq w2 ^^^ sq w3)
  let r2 := u32 (sq w0 ^^^ mulx (sq w1) 0x69#8 ^^^ sq w1 ^^^ mulx (sq w2) 0x69#8 ^^^ sq w3)
  let r3 := u32 (sq w0 ^^^ sq w1 ^^^ mulx (sq w2) 0x69#8 ^^^ sq w2 ^^^ mulx (sq w3) 0x69#8)
  (r0 <<< 24) ||| (r1 <<< 16) ||| (r2 <<< 8) ||| r3

def mulAlpha (c : W8) : W32 :=
  (u32 (mulxPow c 23 0xa9#8) <<< 24) ||| (u32 (mulxPow c 245 0xa9#8) <<< 16) |||
  (u32 (mulxPow c 48 0xa9#8) <<< 8) ||| u32 (mulxPow c 239 0xa9#8)

def divAlpha (c : W8) : W32 :=
  (u32 (mulxPow c 16 0xa9#8) <<< 24) ||| (u32 (mulxPow c 39 0xa9#8) <<< 16) |||
  (u32 (mulxPow c 6 0xa9#8) <<< 8) ||| u32 (mulxPow c 64 0xa9#8)

structure State where
  lfsr : List W32      -- 16 words
  fsm0 : W32
  fsm1 : W32
  fsm2 : W32
deriving Repr, DecidableEq

def State.l (s : State) (i : Nat) : W32 := s.lfsr.getD i 0

/-- `for i := 0; i < 15; i++ { s.lfsr[i] = s.lfsr[i+1] }; s.lfsr[15] = v` -/
def shiftIn (l : List W32) (v : W32) : List W32 := l.drop 1 ++ [v]

def feedback (s : State) : W32 :=
  (s.l 0 <<< 8) ^^^ mulAlpha ((s.l 0 >>> 24).setWidth 8 &&& 0xff#8) ^^^ s.l 2 ^^^ (s.l 11 >>> 8) ^^^
    divAlpha ((s.l 11 &&& 0xff#32).setWidth 8)

def lfsrInitializationMode (s : State) (F : W32) : State := { s with lfsr := shiftIn s.lfsr (feedback s ^^^ F) }
def lfsrKeystreamMode (s : State) : State := { s with lfsr := shiftIn s.lfsr (feedback s) }

def clockFsm (s : State) (s15 s5 : W32) : State × W32 :=
  let F := (s15 + s.fsm0) ^^^ s.fsm1
  let r := s.fsm1 + (s.fsm2 ^^^ s5)
  ({ s with fsm2 := s2 s.fsm1, fsm1 := s1 s.fsm0, fsm0 := r }, F)

def initLoop : Nat → State → State
  | 0, s => s
  | n+1, s =>
    let (s', F) := clockFsm s (s.l 15) (s.l 5)
    initLoop n (lfsrInitializationMode s' F)

/-- `k`, `iv` are `[4]uint32` -/
def newSnow3g (k iv : List W32) : State :=
  let K i := k.getD i 0
  let IV i := iv.getD i 0
  let f : W32 := 0xffffffff#32
  initLoop 32
    { lfsr := [K 0 ^^^ f, K 1 ^^^ f, K 2 ^^^ f, K 3 ^^^ f, K 0, K 1, K 2, K 3,
               K 0 ^^^ f, K 1 ^^^ f ^^^ IV 3, K 2 ^^^ f ^^^ IV 2, K 3 ^^^ f,
               K 0 ^^^ IV 1, K 1, K 2, K 3 ^^^ IV 0],
      fsm0 := 0, fsm1 := 0, fsm2 := 0 }

def ksLoop : Nat → State → List W32
  | 0, _ => []
  | n+1, s =>
    let (s', F) := clockFsm s (s.l 15) (s.l 5)
    (F ^^^ s'.l 0) :: ksLoop n (lfsrKeystreamMode s')

def generateKeystream (s : State) (n : Nat) : List W32 :=
  let (s', _) := clockFsm s (s.l 15) (s.l 5)
  ksLoop n (lfsrKeystreamMode s')

/-- `GetKeyStream(k, iv, n)`; `make([]uint32, n)` panics for negative `n` — callers pass non-negative values -/
def GetKeyStream (k iv : List W32) (n : Nat) : List W32 := generateKeystream (newSnow3g k iv) n

theorem ksLoop_length (n : Nat) (s : State) : (ksLoop n s).length = n := by
  induction n generalizing s with
  | zero => rfl
  | succ n ih => simp [ksLoop, ih]

theorem ksLoop_prefix (n m : Nat) (h : m ≤ n) (s : State) : (ksLoop n s).take m = ksLoop m s := by
  induction m generalizing n s with
  | zero => rfl
  | succ m ih =>
    obtain ⟨n, rfl⟩ : ∃ k, n = k + 1 := ⟨n - 1, by omega⟩
    simp only [ksLoop, List.take_succ_cons, ih n (by omega)]

theorem GetKeyStream_length (k iv : List W32) (n : Nat) : (GetKeyStream k iv n).length = n := by
  simp [GetKeyStream, generateKeystream, ksLoop_length]

theorem GetKeyStream_prefix (k iv : List W32) (n m : Nat) (h : m ≤ n) :
    (GetKeyStream k iv n).take m = GetKeyStream k iv m := by
  unfold GetKeyStream generateKeystream
  exact ksLoop_prefix n m h _

end NasVerif.Model.Snow3g

import NasVerif.Prelude.GoLib
import NasVerif.Proofs.NoPanic
/-!
The `UnmarshalBinary` loops of `Model/Qos` and `Model/UePolicy` that run until their `bytes.Buffer` is used up have one shape: with
fuel left, read one element from the front of the buffer and go on with what the element parser left over, or stop regularly, or
fail. `walk step` is that shape, `step b = .ok none` being the regular end; `endOnEof p` is the step of the loops that take an
`io.EOF` raised anywhere inside the element parser `p` for the end of the list. Each of these loops is equal to an instance of
`walk` (`loop_eq_walk`); that the fuel suffices, and that a walk reads back what was written, is proved here once.
-/
namespace NasVerif
open Outcome

/-- A chain `(eats_p b).bind fun (x, r) _ h => …` hands the bound over as `h : (x, r).2.length + k ≤ b.length`, the projection not
reduced, and `omega` takes `(x, r).2.length` and `r.length` for two unknowns: such proofs end in
`simp only [Outcome.pure_eq, Outcome.post_ok] at *` (`at *` for these hypotheses), then `omega`. -/
abbrev Eats {α} (k : Nat) (p : Bytes → Outcome (α × Bytes)) : Prop := ∀ b, (p b).Post fun xr => xr.2.length + k ≤ b.length

def walk {α} (step : Bytes → Outcome (Option (α × Bytes))) : Nat → Bytes → List α → Outcome (List α)
  | 0, _, _ => .panic
  | fuel + 1, buf, acc =>
    match step buf with
    | .ok (some (x, rest)) => walk step fuel rest (acc ++ [x])
    | .ok none => .ok acc
    | .err e => .err e
    | .panic => .panic

def endOnEof {α} (p : Bytes → Outcome (α × Bytes)) (b : Bytes) : Outcome (Option (α × Bytes)) :=
  match p b with
  | .ok xr => .ok (some xr)
  | .err .empty => .ok none
  | .err e => .err e
  | .panic => .panic

variable {α β} {p : Bytes → Outcome (α × Bytes)} {step : Bytes → Outcome (Option (α × Bytes))}

theorem endOnEof_ok {b : Bytes} {xr : α × Bytes} (h : p b = .ok xr) : endOnEof p b = .ok (some xr) := by simp [endOnEof, h]

theorem endOnEof_eof {b : Bytes} (h : p b = .err .empty) : endOnEof p b = .ok none := by simp [endOnEof, h]

/-- `hs` does not hold by `rfl`: the `match` of a loop of the model and the one written here are compiled separately, to two
matchers; `rw [loop]` and the cases of what is matched on prove it. -/
theorem loop_eq_walk {loop : Nat → Bytes → List α → Outcome (List α)}
    (hz : ∀ b a, loop 0 b a = .panic)
    (hs : ∀ n b a, loop (n + 1) b a =
      match step b with
      | .ok (some (x, r)) => loop n r (a ++ [x])
      | .ok none => .ok a
      | .err e => .err e
      | .panic => .panic) : loop = walk step := by
  funext n
  induction n with
  | zero => funext b a; exact hz b a
  | succ n ih =>
    funext b a
    rw [hs, ih, walk]

abbrev Consumes {α} (step : Bytes → Outcome (Option (α × Bytes))) : Prop :=
  ∀ b, (step b).Post fun o => ∀ xr, o = some xr → xr.2.length < b.length

theorem Eats.consumes {k : Nat} (h : Eats (k + 1) p) : Consumes (endOnEof p) := by
  intro b
  have hb := h b
  unfold endOnEof
  split
  · next xr hxr =>
    rw [hxr] at hb
    intro _ e
    cases e
    have : xr.2.length + (k + 1) ≤ b.length := hb
    omega
  · intro _ e; cases e
  · trivial
  · next hp => rw [hp] at hb; exact hb

theorem walk_total_of_lt (h : Consumes step) :
    ∀ {fuel : Nat} {buf : Bytes} {acc : List α}, buf.length < fuel → NoPanic (walk step fuel buf acc) := by
  intro fuel
  induction fuel with
  | zero => intro _ _ hf; omega
  | succ n ih =>
    intro buf acc hf
    have hb := h buf
    unfold walk
    split
    · next x rest hs => exact ih (by have := hb.of_ok hs _ rfl; simp only at this; omega)
    · exact np_ok _
    · exact np_err _
    · next hs => rw [hs] at hb; exact hb.elim

theorem walk_total (h : Consumes step) (b : Bytes) : NoPanic (walk step (b.length + 1) b []) :=
  walk_total_of_lt h (Nat.lt_succ_self _)

theorem walk_eof_total {k : Nat} (h : Eats (k + 1) p) (b : Bytes) : NoPanic (walk (endOnEof p) (b.length + 1) b []) :=
  walk_total h.consumes b

def encAll {β} (enc : β → Outcome Bytes) : List β → Outcome Bytes
  | [] => pure []
  | x :: r => do
    let a ← enc x
    let b ← encAll enc r
    pure (a ++ b)

theorem encAll_ok (enc : β → Bytes) (l : List β) : encAll (fun x => .ok (enc x)) l = .ok (l.flatMap enc) := by
  induction l with
  | nil => rfl
  | cons x r ih => simp [encAll, ih]

/-- `out x` is what the step returns for the encoding of `x`; it need not be `x` (the serialisers of `Model/UePolicy` write each
length field from the content, whatever the value holds). No element has an empty encoding (the step would stop on it), so
the length of the encoding bounds the number of rounds. -/
theorem walk_encAll_of_lt (enc : β → Outcome Bytes) (out : β → α)
    (h0 : step [] = .ok none) (l : List β)
    (h : ∀ x ∈ l, ∃ b, enc x = .ok b ∧ ∀ rest, step (b ++ rest) = .ok (some (out x, rest))) :
    ∃ bytes, encAll enc l = .ok bytes ∧
      ∀ (fuel : Nat) (acc : List α), bytes.length < fuel → walk step fuel bytes acc = .ok (acc ++ l.map out) := by
  induction l with
  | nil =>
    refine ⟨[], rfl, fun fuel acc hf => ?_⟩
    cases fuel with
    | zero => omega
    | succ n => simp [walk, h0]
  | cons x r ih =>
    obtain ⟨⟨b, hb, hstep⟩, hr⟩ := List.forall_mem_cons.mp h
    obtain ⟨bs, hbs, hw⟩ := ih hr
    refine ⟨b ++ bs, by simp [encAll, hb, hbs], fun fuel acc hf => ?_⟩
    cases fuel with
    | zero => omega
    | succ n =>
      have hx : b ≠ [] := by
        intro he
        have := hstep []
        rw [he, List.nil_append, h0] at this
        cases this
      have : 0 < b.length := List.length_pos_iff.mpr hx
      simp only [List.length_append] at hf
      rw [walk, hstep]
      simp only
      rw [hw n _ (by omega)]
      simp

theorem walk_encAll (enc : β → Outcome Bytes) (out : β → α) (h0 : step [] = .ok none) (l : List β)
    (h : ∀ x ∈ l, ∃ b, enc x = .ok b ∧ ∀ rest, step (b ++ rest) = .ok (some (out x, rest))) :
    ∃ bytes, encAll enc l = .ok bytes ∧ walk step (bytes.length + 1) bytes [] = .ok (l.map out) := by
  obtain ⟨bytes, hb, hw⟩ := walk_encAll_of_lt enc out h0 l h
  exact ⟨bytes, hb, hw _ [] (Nat.lt_succ_self _)⟩

theorem walk_eof_flatMap (enc : β → Bytes) (out : β → α) (h0 : p [] = .err .empty)
    (l : List β) (h : ∀ x ∈ l, ∀ rest, p (enc x ++ rest) = .ok (out x, rest)) :
    walk (endOnEof p) ((l.flatMap enc).length + 1) (l.flatMap enc) [] = .ok (l.map out) := by
  obtain ⟨bytes, hb, hw⟩ := walk_encAll (step := endOnEof p) (fun x => .ok (enc x)) out (endOnEof_eof h0) l
    fun x hx => ⟨_, rfl, fun rest => endOnEof_ok (h x hx rest)⟩
  rw [encAll_ok] at hb
  cases hb
  exact hw

end NasVerif

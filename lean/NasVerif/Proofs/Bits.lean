/-!
# General lemmas that core lacks (core only, no imports)

`NasVerif.Bits`: bits of `Nat`, `BitVec` and `UInt8` as the Go code handles them (masks, shifts, one-bit tests, fields).
`NasVerif` (second half): lists, mostly `List.getD` under `set`, `take`, `drop`, `++`, `replicate` and `flatMap`.
-/
namespace NasVerif.Bits

theorem mul_two_pow_or (x y k : Nat) (hy : y < 2 ^ k) : x * 2 ^ k ||| y = x * 2 ^ k + y := by
  rw [← Nat.shiftLeft_eq, ← Nat.shiftLeft_add_eq_or_of_lt hy]

theorem decide_and_testBit {v w : Nat} (hv : v < 2^w) (j : Nat) : (decide (j < w) && v.testBit j) = v.testBit j := by
  rw [← Nat.testBit_mod_two_pow, Nat.mod_eq_of_lt hv]

theorem eq_of_testBit_lt {a b w : Nat} (ha : a < 2^w) (hb : b < 2^w) (h : ∀ i, i < w → a.testBit i = b.testBit i) : a = b :=
  Nat.eq_of_testBit_eq fun i => by
    rw [← decide_and_testBit ha, ← decide_and_testBit hb]
    by_cases hi : i < w
    · rw [h i hi]
    · simp [hi]

/-- a fact about one octet is checked on the 256 bit vectors, which `decide` enumerates -/
theorem forall_byte {P : UInt8 → Prop} (h : ∀ v : BitVec 8, P (UInt8.ofBitVec v)) (b : UInt8) : P b := h b.toBitVec

theorem forall_octet_le {P : UInt8 → Prop} {k : UInt8} (h : ∀ n, n ≤ k.toNat → P (UInt8.ofNat n)) (o : UInt8) (ho : o ≤ k) :
    P o := by
  simpa using h o.toNat (UInt8.le_iff_toNat_le.mp ho)

theorem forall_octet_lt {P : UInt8 → Prop} {k : UInt8} (h : ∀ n, n < k.toNat → P (UInt8.ofNat n)) (o : UInt8) (ho : o < k) :
    P o := by
  simpa using h o.toNat (UInt8.lt_iff_toNat_lt.mp ho)

def lowMask (w n : Nat) : BitVec w := BitVec.ofNat w (2^n - 1)

theorem getLsbD_lowMask (w n i : Nat) : (lowMask w n).getLsbD i = decide (i < n ∧ i < w) := by
  unfold lowMask
  rw [BitVec.getLsbD_ofNat, Nat.testBit_two_pow_sub_one]
  by_cases hw : i < w <;> by_cases hi : i < n <;> simp [hw, hi]

theorem toNat_and_lowMask (w n : Nat) (hn : n ≤ w) (c : BitVec w) : (c &&& lowMask w n).toNat = c.toNat % 2^n := by
  unfold lowMask
  have hp : 2^n ≤ 2^w := Nat.pow_le_pow_right (by omega) hn
  have hpos : 0 < 2^n := Nat.two_pow_pos n
  rw [BitVec.toNat_and, BitVec.toNat_ofNat, Nat.mod_eq_of_lt (by omega)]
  exact Nat.and_two_pow_sub_one_eq_mod c.toNat n

theorem toNat_and_ff (x : BitVec 32) : (x &&& 0xff#32).toNat = x.toNat % 256 := toNat_and_lowMask 32 8 (by omega) x

/-- the `n`-bit field of `c` that starts at bit `lo`, as the Go code reads it: mask, shift, convert -/
def getField (c : BitVec w) (lo n : Nat) : BitVec n := ((c &&& (lowMask w n <<< lo)) >>> lo).setWidth n

/-- … and as the Go code writes it: clear the field, or the shifted value in -/
def setField (c : BitVec w) (lo n : Nat) (v : BitVec n) : BitVec w := (c &&& ~~~(lowMask w n <<< lo)) ||| (v.setWidth w <<< lo)

theorem getField_eq_extractLsb' (c : BitVec w) (lo n : Nat) : getField c lo n = BitVec.extractLsb' lo n c := by
  apply BitVec.eq_of_getLsbD_eq
  intro i hi
  rw [BitVec.getLsbD_extractLsb', getField, BitVec.getLsbD_setWidth, BitVec.getLsbD_ushiftRight, BitVec.getLsbD_and,
    BitVec.getLsbD_shiftLeft, getLsbD_lowMask, Nat.add_sub_cancel_left]
  by_cases h : lo + i < w
  · simp [h, hi, show ¬ lo + i < lo by omega, show i < w by omega]
  · simp [BitVec.getLsbD_of_ge c (lo + i) (by omega)]

theorem getLsbD_getField (c : BitVec w) (lo n i : Nat) :
    (getField c lo n).getLsbD i = (decide (i < n) && c.getLsbD (lo + i)) := by
  rw [getField_eq_extractLsb', BitVec.getLsbD_extractLsb']

theorem toNat_getField (c : BitVec w) (lo n : Nat) : (getField c lo n).toNat = c.toNat / 2^lo % 2^n := by
  rw [getField_eq_extractLsb', BitVec.extractLsb'_toNat, Nat.shiftRight_eq_div_pow]

theorem getLsbD_setField (c : BitVec w) (lo n : Nat) (v : BitVec n) (i : Nat) :
    (setField c lo n v).getLsbD i = if lo ≤ i ∧ i < lo + n then (decide (i < w) && v.getLsbD (i - lo)) else c.getLsbD i := by
  simp only [setField, BitVec.getLsbD_or, BitVec.getLsbD_and, BitVec.getLsbD_not, BitVec.getLsbD_shiftLeft,
    BitVec.getLsbD_setWidth, getLsbD_lowMask]
  by_cases hw : i < w
  · by_cases h1 : lo ≤ i
    · by_cases h2 : i < lo + n
      · simp [hw, h1, h2, show ¬ i < lo by omega, show i - lo < n by omega, show i - lo < w by omega]
      · simp [hw, h1, h2, show ¬ i < lo by omega, show ¬ i - lo < n by omega, BitVec.getLsbD_of_ge v (i - lo) (by omega)]
    · simp [hw, h1, show i < lo by omega]
  · simp [hw, BitVec.getLsbD_of_ge c i (by omega)]

theorem getField_setField (c : BitVec w) (lo n : Nat) (v : BitVec n) (h : lo + n ≤ w) : getField (setField c lo n v) lo n = v := by
  apply BitVec.eq_of_getLsbD_eq
  intro i hi
  rw [getLsbD_getField, getLsbD_setField, if_pos (by omega)]
  simp [hi, show lo + i < w by omega]

theorem getField_setField_of_disjoint (c : BitVec w) (lo n : Nat) (v : BitVec n) (lo' n' : Nat)
    (h : lo + n ≤ lo' ∨ lo' + n' ≤ lo) : getField (setField c lo n v) lo' n' = getField c lo' n' := by
  apply BitVec.eq_of_getLsbD_eq
  intro i hi
  rw [getLsbD_getField, getLsbD_getField, getLsbD_setField, if_neg (by omega)]

/-- `x & (1 << k) != 0`, the Go idiom for "bit `k` of `x` is set"; `mask_test` is its form on an octet -/
theorem and_twoPow_ne_zero (x : BitVec w) (k : Nat) (hk : k < w) : (x &&& BitVec.twoPow w k != 0#w) = x.getLsbD k := by
  rw [BitVec.and_twoPow]
  cases x.getLsbD k
  · simp
  · have : BitVec.twoPow w k ≠ 0#w := fun h => by
      have := congrArg BitVec.toNat h
      rw [BitVec.toNat_twoPow_of_lt hk] at this
      exact absurd this (Nat.ne_of_gt (Nat.two_pow_pos k))
    simpa using this

theorem msb_test (V : BitVec w) (hw : 0 < w) : (V &&& BitVec.twoPow w (w - 1) != 0#w) = V.msb := by
  rw [and_twoPow_ne_zero V _ (by omega), BitVec.msb_eq_getLsbD_last]

theorem mask_test (x : UInt8) (k : Nat) (hk : k < 8) : ((x &&& ((1 : UInt8) <<< UInt8.ofNat k)) != 0) = x.toNat.testBit k := by
  have e : ∀ k, k < 8 → (1 : UInt8) <<< UInt8.ofNat k = UInt8.ofBitVec (BitVec.twoPow 8 k) := by decide
  rw [e k hk, show x.toNat.testBit k = x.toBitVec.getLsbD k from rfl, ← and_twoPow_ne_zero x.toBitVec k hk, Bool.eq_iff_iff,
    bne_iff_ne, bne_iff_ne, Ne, Ne, ← UInt8.toBitVec_inj]
  rfl

end NasVerif.Bits

namespace NasVerif
variable {α β γ : Type}

theorem getD_set_eq (l : List α) (i : Nat) (x d : α) (h : i < l.length) : (l.set i x).getD i d = x := by
  simp [List.getD_eq_getElem?_getD, h]

theorem getD_set_ne (l : List α) (i j : Nat) (x d : α) (h : i ≠ j) : (l.set i x).getD j d = l.getD j d := by
  rw [List.getD_eq_getElem?_getD, List.getElem?_set, if_neg h, ← List.getD_eq_getElem?_getD]

theorem ext_getD (a b : List α) (d : α) (hl : a.length = b.length) (h : ∀ t, t < a.length → a.getD t d = b.getD t d) : a = b := by
  apply List.ext_getElem hl
  intro i h1 h2
  have := h i h1
  simpa [List.getD_eq_getElem?_getD, List.getElem?_eq_getElem h1, List.getElem?_eq_getElem h2] using this

theorem take_getD (l : List α) (n t : Nat) (d : α) (h : t < n) : (l.take n).getD t d = l.getD t d := by
  simp [List.getD_eq_getElem?_getD, h]

theorem drop_getD (l : List α) (n t : Nat) (d : α) : (l.drop n).getD t d = l.getD (n + t) d := by
  rw [List.getD_eq_getElem?_getD, List.getElem?_drop, ← List.getD_eq_getElem?_getD]

theorem getD_of_le (l : List α) (t : Nat) (d : α) (h : l.length ≤ t) : l.getD t d = d := by
  rw [List.getD_eq_getElem?_getD, List.getElem?_eq_none h]; rfl

theorem getD_append_left (l e : List α) (d : α) {t : Nat} (h : t < l.length) : (l ++ e).getD t d = l.getD t d := by
  simp [List.getD_eq_getElem?_getD, List.getElem?_append_left h]

theorem getD_append_right (l e : List α) (d : α) {t : Nat} (h : l.length ≤ t) : (l ++ e).getD t d = e.getD (t - l.length) d := by
  simp [List.getD_eq_getElem?_getD, List.getElem?_append_right h]

theorem getD_replicate (n t : Nat) (d : α) : (List.replicate n d).getD t d = d := by
  rw [List.getD_eq_getElem?_getD, List.getElem?_replicate]; split <;> rfl

/-- for every `t`: the chunk of the default element holds only default elements, so beyond the end both sides are the default -/
theorem flatMap_getD (f : α → List β) (k : Nat) (hk : 0 < k) (hf : ∀ a, (f a).length = k) (x : α) (d : β)
    (hx : ∀ j, j < k → (f x).getD j d = d) (l : List α) (t : Nat) : (l.flatMap f).getD t d = (f (l.getD (t / k) x)).getD (t % k) d := by
  induction l generalizing t with
  | nil => rw [List.flatMap_nil, List.getD_nil, List.getD_nil, hx _ (Nat.mod_lt _ hk)]
  | cons a r ih =>
    simp only [List.flatMap_cons]
    by_cases h : t < k
    · rw [getD_append_left _ _ _ (by rw [hf]; exact h), Nat.div_eq_of_lt h, Nat.mod_eq_of_lt h, List.getD_cons_zero]
    · have hge : k ≤ t := by omega
      rw [getD_append_right _ _ _ (by rw [hf]; exact hge), hf, ih (t - k), Nat.div_eq_sub_div hk hge, Nat.mod_eq_sub_mod hge,
        List.getD_cons_succ]

theorem flatMap_length (f : α → List β) (k : Nat) (hf : ∀ a, (f a).length = k) (l : List α) :
    (l.flatMap f).length = k * l.length := by
  induction l with
  | nil => simp
  | cons a r ih => simp [List.flatMap_cons, hf, ih, Nat.mul_add]; omega

theorem flatMap_map_congr {f g : α → β} (m : β → List γ) {l : List α} (h : ∀ a ∈ l, m (f a) = m (g a)) :
    (l.map f).flatMap m = (l.map g).flatMap m := by
  rw [List.flatMap_map, List.flatMap_map, List.flatMap_def, List.flatMap_def, List.map_congr_left h]

theorem foldl_max_ge (l : List Nat) (a n : Nat) (h : n ∈ l ∨ n ≤ a) : n ≤ l.foldl Nat.max a := by
  induction l generalizing a with
  | nil => simpa using h
  | cons x xs ih =>
    simp only [List.foldl_cons]
    apply ih
    rcases h with h | h
    · rcases List.mem_cons.mp h with rfl | h
      · right; exact Nat.le_max_right ..
      · left; exact h
    · right; exact Nat.le_trans h (Nat.le_max_left ..)

end NasVerif

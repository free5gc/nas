import NasVerif.Model.Zuc
import NasVerif.Spec.ZUC
import NasVerif.Proofs.Bits
/-!
# The model of zuc.go computes the ZUC keystream of the specification (given equal tables)

The Go code keeps the 16 LFSR cells in `uint32`s and reduces modulo p = 2^31 - 1 with the end-around-carry fold
`f = (f & 0x7FFFFFFF) + (f >> 31)`; the specification works in GF(p) with the residue 0 represented by p. The refinement
invariant is: 16 cells, each in [1, p]. Under it a fold is the specification's reduction, a 31-bit rotation is multiplication
by 2^k mod p, and the bit reorganisation / F / S-box steps agree word for word.
-/
namespace NasVerif.Proofs.ZucRefine
open NasVerif NasVerif.Model.Zuc
abbrev P := Spec.ZUC.P
abbrev norm := Spec.ZUC.norm

/-- The regenerated tables are the specification's. The refinement takes this as a hypothesis and `C06.tables_eq` discharges it
by one evaluation, so a table that changes in the source fails there. The tables this file does evaluate (`s0_small`,
`s1_small`, `d_range`) are the specification's. -/
abbrev TablesEq : Prop :=
  Gen.Crypto.zuc_s0 = Spec.Tab.zuc_s0 ∧ Gen.Crypto.zuc_s1 = Spec.Tab.zuc_s1 ∧ Gen.Crypto.zuc_d = Spec.Tab.zuc_d

-- p = 2^31 - 1 is written out as the literal 2147483647 in every statement below: `omega` reads a literal, not `Spec.ZUC.P`

def RepN (v S : Nat) : Prop := (1 ≤ v ∧ v ≤ 2147483647) ∧ v % 2147483647 = S % 2147483647

def CellOK (c : W32) : Prop := 1 ≤ c.toNat ∧ c.toNat ≤ 2147483647

/-- the cell `f` represents the residue of `S`: what the accumulator of `Lfsr.state` satisfies after each tap, `S` being the
specification's sum so far -/
def Rep (f : W32) (S : Nat) : Prop := RepN f.toNat S

theorem Rep.cellOK {f : W32} {S : Nat} (h : Rep f S) : CellOK f := h.1

theorem Rep.eq_norm {f : W32} {S : Nat} (h : Rep f S) : f.toNat = norm S := by
  obtain ⟨⟨h1, hp⟩, hm⟩ := h
  unfold norm Spec.ZUC.norm Spec.ZUC.P; split <;> omega

/-- the end-around-carry fold subtracts p once if needed -/
theorem fold_nat (s : Nat) (h1 : 1 ≤ s) (h2 : s ≤ 4294967294) : RepN ((s % 2 ^ 32 % 2 ^ 31 + s % 2 ^ 32 / 2 ^ 31) % 2 ^ 32) s := by
  rw [Nat.mod_eq_of_lt (show s < 2 ^ 32 by omega)]
  by_cases c : s < 2 ^ 31
  · rw [Nat.mod_eq_of_lt c, Nat.div_eq_of_lt c, Nat.add_zero, Nat.mod_eq_of_lt (by omega)]
    exact ⟨⟨h1, by omega⟩, rfl⟩
  · rw [show s % 2 ^ 31 = s - 2 ^ 31 by omega, show s / 2 ^ 31 = 1 by omega, Nat.mod_eq_of_lt (by omega),
      show s - 2 ^ 31 + 1 = s - 2147483647 by omega]
    exact ⟨⟨by omega, by omega⟩, (Nat.mod_eq_sub_mod (by omega)).symm⟩

theorem rep_add (f x : W32) (S T : Nat) (hf : Rep f S) (hx : x.toNat ≤ 2147483647) (hT : x.toNat % 2147483647 = T % 2147483647) :
    Rep (fold31 (f + x)) (S + T) := by
  obtain ⟨⟨hf1, hfp⟩, hfm⟩ := hf
  obtain ⟨hv, hm⟩ := fold_nat (f.toNat + x.toNat) (by omega) (by omega)
  unfold Rep fold31
  simp only [BitVec.toNat_add, BitVec.toNat_and, BitVec.toNat_ushiftRight, BitVec.toNat_ofNat, Nat.shiftRight_eq_div_pow]
  rw [show 2147483647 % 2 ^ 32 = 2 ^ 31 - 1 from rfl, Nat.and_two_pow_sub_one_eq_mod]
  exact ⟨hv, by rw [hm, Nat.add_mod, hfm, hT, ← Nat.add_mod]⟩

/-- 31-bit rotation is multiplication by 2^k modulo p: for `n = hi · 2^j + lo` the rotated value is `lo · 2^k + hi`, and
2^31 ≡ 1 -/
theorem rot31_nat (n k j : Nat) (hkj : j + k = 31) (h1 : 1 ≤ n) (hn : n < 2 ^ 31) :
    RepN (((n * 2 ^ k % 2 ^ 32) ||| (n / 2 ^ j)) % 2 ^ 31) (2 ^ k * n) := by
  have hT : (2:Nat) ^ 31 = 2 ^ j * 2 ^ k := by rw [← Nat.pow_add, hkj]
  have hdm := Nat.div_add_mod n (2 ^ j)
  have hlo := Nat.mod_lt n (Nat.two_pow_pos j)
  have hhi : n / 2 ^ j < 2 ^ k := Nat.div_lt_of_lt_mul (by rw [← hT]; exact hn)
  generalize n / 2 ^ j = hi at *
  generalize n % 2 ^ j = lo at *
  have hmul : n * 2 ^ k = hi * 2 ^ 31 + lo * 2 ^ k := by
    rw [← hdm, Nat.add_mul, hT, Nat.mul_comm (2 ^ j) hi, Nat.mul_assoc]
  have hlk : lo * 2 ^ k + 2 ^ k ≤ 2 ^ 31 := by
    rw [hT]; have := Nat.mul_le_mul_right (2 ^ k) (show lo + 1 ≤ 2 ^ j from hlo); rwa [Nat.add_mul, Nat.one_mul] at this
  have e1 : n * 2 ^ k % 2 ^ 32 % 2 ^ 31 = lo * 2 ^ k := by
    rw [Nat.mod_mod_of_dvd _ (by decide : 2 ^ 31 ∣ 2 ^ 32), hmul, Nat.add_comm, Nat.add_mul_mod_self_right]
    exact Nat.mod_eq_of_lt (by omega)
  rw [Nat.or_mod_two_pow, e1, Nat.mod_eq_of_lt (show hi < 2 ^ 31 by omega), Bits.mul_two_pow_or _ _ _ hhi]
  have hlo0 : lo = 0 → 1 ≤ hi := fun h0 => Nat.pos_of_ne_zero fun hh => by
    subst h0 hh
    omega
  have := Nat.mul_le_mul_left lo (Nat.two_pow_pos k)
  refine ⟨⟨by omega, by omega⟩, ?_⟩
  rw [Nat.mul_comm (2 ^ k) n, hmul, show (2:Nat) ^ 31 = 2147483647 + 1 from rfl, Nat.mul_add, Nat.mul_one,
    show hi * 2147483647 + hi + lo * 2 ^ k = (lo * 2 ^ k + hi) + hi * 2147483647 by omega, Nat.add_mul_mod_self_right]

theorem rep_rot (c : W32) (k j : Nat) (hkj : j + k = 31) (hc : CellOK c) :
    Rep (((c <<< k) ||| (c >>> j)) &&& 0x7FFFFFFF#32) (2 ^ k * c.toNat) := by
  unfold Rep
  simp only [BitVec.toNat_and, BitVec.toNat_or, BitVec.toNat_shiftLeft, BitVec.toNat_ushiftRight, BitVec.toNat_ofNat,
    Nat.shiftRight_eq_div_pow, Nat.shiftLeft_eq]
  rw [show 2147483647 % 2 ^ 32 = 2 ^ 31 - 1 from rfl, Nat.and_two_pow_sub_one_eq_mod]
  exact rot31_nat c.toNat k j hkj hc.1 (by have := hc.2; omega)

def toSpec (st : State) : Spec.ZUC.St := ⟨st.s.map BitVec.toNat, st.r0, st.r1⟩

def Inv (st : State) : Prop := st.s.length = 16 ∧ ∀ c ∈ st.s, CellOK c

def Refines (st : State) (sp : Spec.ZUC.St) : Prop := toSpec st = sp ∧ Inv st

theorem getD_map_toNat {n : Nat} (l : List (BitVec n)) (i : Nat) : (l.map BitVec.toNat).getD i 0 = (l.getD i 0).toNat := by
  simp only [List.getD_eq_getElem?_getD, List.getElem?_map]
  cases l[i]? <;> simp

theorem cell_toSpec (st : State) (i : Nat) : Spec.ZUC.cell (toSpec st) i = (st.c i).toNat := getD_map_toNat st.s i

theorem inv_cell (st : State) (h : Inv st) (i : Nat) (hi : i < 16) : CellOK (st.c i) := by
  obtain ⟨hl, hc⟩ := h
  have : i < st.s.length := by omega
  simp only [State.c, List.getD_eq_getElem?_getD, List.getElem?_eq_getElem this, Option.getD_some]
  exact hc _ (List.getElem_mem this)

theorem rep_tap (st : State) (f : W32) (S v k : Nat) (hk : k ≤ 31) (hf : Rep f S) (hc : CellOK (st.c v)) :
    Rep (tap st f v k) (S + 2 ^ k * (st.c v).toNat) :=
  have ⟨⟨_, hrp⟩, hrm⟩ := rep_rot (st.c v) k (31 - k) (by omega) hc
  rep_add f _ S _ hf hrp hrm

theorem lfsr_feedback (st : State) (h : Inv st) (init : Bool) (u : W32) (hu : u.toNat ≤ 2147483647) :
    ∃ f, (lfsrState st init u).s = st.s.drop 1 ++ [f] ∧ CellOK f ∧
      f.toNat = Spec.ZUC.lfsrNext (toSpec st) (if init then u.toNat else 0) := by
  have c (i : Nat) (hi : i < 16) := inv_cell st h i hi
  have r0 : Rep (st.c 0) (st.c 0).toNat := ⟨c 0 (by omega), rfl⟩
  have r1 := rep_tap st _ _ 0 8 (by omega) r0 (c 0 (by omega))
  have r2 := rep_tap st _ _ 4 20 (by omega) r1 (c 4 (by omega))
  have r3 := rep_tap st _ _ 10 21 (by omega) r2 (c 10 (by omega))
  have r4 := rep_tap st _ _ 13 17 (by omega) r3 (c 13 (by omega))
  have r := rep_tap st _ _ 15 15 (by omega) r4 (c 15 (by omega))
  unfold lfsrState
  simp only []
  cases init with
  | false =>
    refine ⟨_, rfl, r.cellOK, ?_⟩
    simp only [Bool.false_eq_true, if_false, Spec.ZUC.lfsrNext, cell_toSpec]
    rw [r.eq_norm]
    congr 1; omega
  | true =>
    have r' := rep_add _ u _ _ r hu rfl
    refine ⟨_, rfl, r'.cellOK, ?_⟩
    simp only [if_true]
    rw [r'.eq_norm]
    simp only [Spec.ZUC.lfsrNext, cell_toSpec]
    congr 1; omega

theorem lfsrState_spec (st : State) (h : Inv st) (init : Bool) (u : W32) (hu : u.toNat ≤ 2147483647) :
    Refines (lfsrState st init u) (Spec.ZUC.lfsrStep (toSpec st) (if init then u.toNat else 0)) := by
  obtain ⟨f, hs, hf, hv⟩ := lfsr_feedback st h init u hu
  have hr : (lfsrState st init u).r0 = st.r0 ∧ (lfsrState st init u).r1 = st.r1 := by
    unfold lfsrState; exact ⟨rfl, rfl⟩
  constructor
  · unfold Spec.ZUC.lfsrStep
    rw [← hv]
    unfold toSpec
    rw [hs, hr.1, hr.2]
    simp
  · refine ⟨by rw [hs]; simp [h.1], ?_⟩
    intro c hc
    rw [hs] at hc
    rcases List.mem_append.mp hc with h1 | h1
    · exact h.2 c (List.mem_of_mem_drop h1)
    · simp at h1; subst h1; exact hf

theorem and_hi_mask (n : Nat) (hn : n < 2 ^ 31) : n &&& 0x7FFF8000 = n / 2 ^ 15 * 2 ^ 15 := by
  apply Nat.eq_of_testBit_eq
  intro i
  rw [Nat.testBit_and, show (0x7FFF8000 : Nat) = (2 ^ 16 - 1) * 2 ^ 15 from rfl, Nat.testBit_mul_two_pow, Nat.testBit_mul_two_pow,
    Nat.testBit_two_pow_sub_one, Nat.testBit_div_two_pow]
  by_cases h15 : 15 ≤ i
  · have e : i - 15 + 15 = i := by omega
    rw [e]
    by_cases h31 : i < 31
    · simp [h15]; omega
    · have : n.testBit i = false := Nat.testBit_lt_two_pow (Nat.lt_of_lt_of_le hn (Nat.pow_le_pow_right (by omega) (by omega)))
      simp [this]
  · simp [h15]

theorem br_hi_lo (a b : W32) (ha : a.toNat < 2 ^ 31) :
    ((a &&& 0x7FFF8000#32) <<< 1) ||| (b &&& 0xFFFF#32) = BitVec.ofNat 32 (Spec.ZUC.hi16 a.toNat * 2 ^ 16 + Spec.ZUC.lo16 b.toNat) := by
  apply BitVec.eq_of_toNat_eq
  simp only [BitVec.toNat_or, BitVec.toNat_shiftLeft, BitVec.toNat_and, BitVec.toNat_ofNat, Nat.shiftLeft_eq, Spec.ZUC.hi16, Spec.ZUC.lo16]
  rw [show 2147450880 % 2 ^ 32 = 0x7FFF8000 from rfl, and_hi_mask _ ha, show 65535 % 2 ^ 32 = 2 ^ 16 - 1 from rfl,
    Nat.and_two_pow_sub_one_eq_mod]
  have hq : a.toNat / 2 ^ 15 < 2 ^ 16 := Nat.div_lt_of_lt_mul (by rw [← Nat.pow_add]; exact ha)
  have e1 : a.toNat / 2 ^ 15 * 2 ^ 15 * 2 ^ 1 % 2 ^ 32 = a.toNat / 2 ^ 15 * 2 ^ 16 := by omega
  have e2 : a.toNat / 2 ^ 15 % 2 ^ 16 = a.toNat / 2 ^ 15 := Nat.mod_eq_of_lt hq
  rw [e1, e2, Bits.mul_two_pow_or _ _ _ (Nat.mod_lt _ (by decide))]
  exact (Nat.mod_eq_of_lt (by omega)).symm

theorem br_lo_hi (a b : W32) (hb : b.toNat < 2 ^ 31) :
    ((a &&& 0xFFFF#32) <<< 16) ||| (b >>> 15) = BitVec.ofNat 32 (Spec.ZUC.lo16 a.toNat * 2 ^ 16 + Spec.ZUC.hi16 b.toNat) := by
  apply BitVec.eq_of_toNat_eq
  simp only [BitVec.toNat_or, BitVec.toNat_shiftLeft, BitVec.toNat_and, BitVec.toNat_ofNat, BitVec.toNat_ushiftRight,
    Nat.shiftLeft_eq, Nat.shiftRight_eq_div_pow, Spec.ZUC.hi16, Spec.ZUC.lo16]
  rw [show 65535 % 2 ^ 32 = 2 ^ 16 - 1 from rfl, Nat.and_two_pow_sub_one_eq_mod]
  have hq : b.toNat / 2 ^ 15 < 2 ^ 16 := Nat.div_lt_of_lt_mul (by rw [← Nat.pow_add]; exact hb)
  have hl : a.toNat % 2 ^ 16 < 2 ^ 16 := Nat.mod_lt _ (by decide)
  have e1 : a.toNat % 2 ^ 16 * 2 ^ 16 % 2 ^ 32 = a.toNat % 2 ^ 16 * 2 ^ 16 := Nat.mod_eq_of_lt (by omega)
  have e2 : b.toNat / 2 ^ 15 % 2 ^ 16 = b.toNat / 2 ^ 15 := Nat.mod_eq_of_lt hq
  rw [e1, e2, Bits.mul_two_pow_or _ _ _ hq]
  exact (Nat.mod_eq_of_lt (by omega)).symm

/-- This and `nonlinF_eq` are used right to left (`simp only [← bitReorganization_eq st h, ← nonlinF_eq ht]`): the specification's
calls of `br` and `F` become the model's results, `F`'s as an explicit pair on which the specification's `let (W, st') := F …`
reduces. -/
theorem bitReorganization_eq (st : State) (h : Inv st) : bitReorganization st = Spec.ZUC.br (toSpec st) := by
  have lt (i : Nat) (hi : i < 16) : (st.c i).toNat < 2 ^ 31 := by have := (inv_cell st h i hi).2; omega
  unfold Spec.ZUC.br bitReorganization
  simp only [cell_toSpec]
  rw [br_hi_lo _ _ (lt 15 (by omega)), br_lo_hi _ _ (lt 9 (by omega)), br_lo_hi _ _ (lt 5 (by omega)), br_lo_hi _ _ (lt 0 (by omega))]

theorem rot_eq (x : W32) (k : Nat) (hk : k < 32) : rot x k = x.rotateLeft k := by
  unfold rot
  rw [BitVec.rotateLeft_def, Nat.mod_eq_of_lt hk]

theorem l1_eq (x : W32) : l1 x = Spec.ZUC.L1 x := by
  unfold l1 Spec.ZUC.L1
  rw [rot_eq x 2 (by omega), rot_eq x 10 (by omega), rot_eq x 18 (by omega), rot_eq x 24 (by omega)]

theorem l2_eq (x : W32) : l2 x = Spec.ZUC.L2 x := by
  unfold l2 Spec.ZUC.L2
  rw [rot_eq x 8 (by omega), rot_eq x 14 (by omega), rot_eq x 22 (by omega), rot_eq x 30 (by omega)]

-- `sbox0`/`sbox1` take `ofNat 8` of a table entry and widen it, `Spec.ZUC.sb` takes `ofNat 32` directly: equal for entries below 256
theorem s0_small : ∀ x ∈ Spec.Tab.zuc_s0, x < 256 := by decide +kernel
theorem s1_small : ∀ x ∈ Spec.Tab.zuc_s1, x < 256 := by decide +kernel

theorem getD_small (t : List Nat) (h : ∀ x ∈ t, x < 256) (i : Nat) : t.getD i 0 < 256 := by
  rw [List.getD_eq_getElem?_getD]
  cases hi : t[i]? with
  | none => simp
  | some v => simp; exact h v (List.mem_of_getElem? hi)

theorem widen8 (v : Nat) (h : v < 256) : (BitVec.ofNat 8 v).setWidth 32 = BitVec.ofNat 32 v := by
  apply BitVec.eq_of_toNat_eq
  simp [BitVec.toNat_setWidth]
  omega

theorem idx_top (w : W32) : (w >>> 24).toNat = (w >>> 24).toNat % 256 := by
  have : (w >>> 24).toNat < 256 := by
    rw [BitVec.toNat_ushiftRight, Nat.shiftRight_eq_div_pow]
    have := w.isLt
    omega
  omega

theorem S_eq (ht : TablesEq) (u : W32) :
    makeU32 (sbox0 (u >>> 24)) (sbox1 ((u >>> 16) &&& 0xFF#32)) (sbox0 ((u >>> 8) &&& 0xFF#32)) (sbox1 (u &&& 0xFF#32)) = Spec.ZUC.S u := by
  obtain ⟨hs0, hs1, -⟩ := ht
  unfold makeU32 sbox0 sbox1 Spec.ZUC.S Spec.ZUC.sb
  rw [hs0, hs1, Bits.toNat_and_ff, Bits.toNat_and_ff, Bits.toNat_and_ff, ← idx_top,
    widen8 _ (getD_small _ s0_small _), widen8 _ (getD_small _ s1_small _), widen8 _ (getD_small _ s0_small _),
    widen8 _ (getD_small _ s1_small _), BitVec.ushiftRight_zero]

theorem nonlinF_eq (ht : TablesEq) (st : State) (x0 x1 x2 : W32) :
    ((nonlinF st x0 x1 x2).2, toSpec (nonlinF st x0 x1 x2).1) = Spec.ZUC.F (toSpec st) x0 x1 x2 := by
  unfold Spec.ZUC.F nonlinF
  simp only [toSpec, S_eq ht, l1_eq, l2_eq]

theorem nonlinF_s (st : State) (x0 x1 x2 : W32) : (nonlinF st x0 x1 x2).1.s = st.s := rfl

theorem nonlinF_inv (st : State) (h : Inv st) (x0 x1 x2 : W32) : Inv (nonlinF st x0 x1 x2).1 := h

theorem lfsr_work (st : State) (h : Inv st) :
    Refines (lfsrState st false 0) (Spec.ZUC.lfsrStep (toSpec st) 0) :=
  lfsrState_spec st h false 0 (by decide)

theorem lfsr_init (st : State) (h : Inv st) (w : W32) :
    Refines (lfsrState st true (w >>> 1)) (Spec.ZUC.lfsrStep (toSpec st) (w.toNat / 2)) := by
  have hw : (w >>> 1).toNat = w.toNat / 2 := by rw [BitVec.toNat_ushiftRight, Nat.shiftRight_eq_div_pow, Nat.pow_one]
  have := lfsrState_spec st h true (w >>> 1) (by have := w.isLt; omega)
  rwa [if_pos rfl, hw] at this

theorem initLoop_spec (ht : TablesEq) (n : Nat) (st : State) (sp : Spec.ZUC.St) (h : Refines st sp) :
    Refines (initLoop n st) (Spec.ZUC.initRounds n sp) := by
  induction n generalizing st sp with
  | zero => exact h
  | succ n ih =>
    obtain ⟨rfl, hinv⟩ := h
    simp only [initLoop, Spec.ZUC.initRounds, ← bitReorganization_eq st hinv, ← nonlinF_eq ht]
    exact ih _ _ (lfsr_init _ (nonlinF_inv st hinv _ _ _) _)

theorem ksLoop_eq (ht : TablesEq) (n : Nat) (st : State) (sp : Spec.ZUC.St) (h : Refines st sp) :
    ksLoop n st = Spec.ZUC.ksLoop n sp := by
  induction n generalizing st sp with
  | zero => rfl
  | succ n ih =>
    obtain ⟨rfl, hinv⟩ := h
    simp only [ksLoop, Spec.ZUC.ksLoop, ← bitReorganization_eq st hinv, ← nonlinF_eq ht]
    rw [ih _ _ (lfsr_work _ (nonlinF_inv st hinv _ _ _))]

theorem load_cell (k v : BitVec 8) (d : Nat) (hd : d < 2 ^ 15) :
    ((k.setWidth 32 <<< 23) ||| (BitVec.ofNat 32 d <<< 8) ||| v.setWidth 32).toNat = k.toNat * 2 ^ 23 + d * 2 ^ 8 + v.toNat := by
  have hk := k.isLt
  have hv := v.isLt
  simp only [BitVec.toNat_or, BitVec.toNat_shiftLeft, BitVec.toNat_setWidth, BitVec.toNat_ofNat, Nat.shiftLeft_eq]
  have e1 : k.toNat % 2 ^ 32 * 2 ^ 23 % 2 ^ 32 = k.toNat * 2 ^ 23 := by omega
  have hd' : d < 32768 := hd
  have e2 : d % 2 ^ 32 * 2 ^ 8 % 2 ^ 32 = d * 2 ^ 8 := by
    rw [Nat.mod_eq_of_lt (show d < 2 ^ 32 by omega)]
    exact Nat.mod_eq_of_lt (by omega)
  have e3 : v.toNat % 2 ^ 32 = v.toNat := by omega
  rw [e1, e2, e3, Bits.mul_two_pow_or _ _ 23 (by omega)]
  rw [show k.toNat * 2 ^ 23 + d * 2 ^ 8 = (k.toNat * 2 ^ 15 + d) * 2 ^ 8 by omega, Bits.mul_two_pow_or _ _ 8 (by omega)]

-- `1 ≤ d`: a cell loaded from `k = iv = 0` is still ≥ 1, as `CellOK` asks; `d < 2^15`: the three fields of a cell do not overlap
theorem d_range : ∀ i, i < 16 → 1 ≤ Spec.Tab.zuc_d.getD i 0 ∧ Spec.Tab.zuc_d.getD i 0 < 32768 := by decide

/-- the state `initialization` loads before its 32 rounds (`initialization k iv = initLoop 32 (loadSt k iv)` by `rfl`) -/
def loadSt (k iv : List (BitVec 8)) : State :=
  { s := (List.range 16).map (fun i => ((k.getD i 0).setWidth 32 <<< 23) ||| (ek_d i <<< 8) ||| (iv.getD i 0).setWidth 32),
    r0 := 0, r1 := 0 }

theorem load_spec (ht : TablesEq) (k iv : List (BitVec 8)) :
    Refines (loadSt k iv) (Spec.ZUC.load (k.map BitVec.toNat) (iv.map BitVec.toNat)) := by
  have hcell : ∀ i, i < 16 → (((k.getD i 0).setWidth 32 <<< 23) ||| (ek_d i <<< 8) ||| (iv.getD i 0).setWidth 32).toNat =
      (k.getD i 0).toNat * 2 ^ 23 + Spec.Tab.zuc_d.getD i 0 * 2 ^ 8 + (iv.getD i 0).toNat := by
    intro i hi
    have ⟨_, _, hd⟩ := ht
    unfold ek_d
    rw [hd]
    exact load_cell _ _ _ (by have := (d_range i hi).2; omega)
  constructor
  · unfold toSpec loadSt Spec.ZUC.load
    simp only [List.map_map]
    congr 1
    apply List.map_congr_left
    intro i hi
    have hi' : i < 16 := by simpa using hi
    simp only [Function.comp, hcell i hi', getD_map_toNat]
  · refine ⟨by simp [loadSt], ?_⟩
    intro c hc
    simp only [loadSt, List.mem_map, List.mem_range] at hc
    obtain ⟨i, hi, rfl⟩ := hc
    unfold CellOK
    rw [hcell i hi]
    have hk := (k.getD i 0).isLt
    have hv := (iv.getD i 0).isLt
    have hd := d_range i hi
    omega

theorem Zuc_eq (ht : TablesEq) (k iv : List (BitVec 8)) (n : Nat) :
    Zuc k iv n = Spec.ZUC.keystream (k.map BitVec.toNat) (iv.map BitVec.toNat) n := by
  have hinit : initialization k iv = initLoop 32 (loadSt k iv) := rfl
  obtain ⟨e, hinv⟩ := initLoop_spec ht 32 _ _ (load_spec ht k iv)
  unfold Zuc generateKeystream Spec.ZUC.keystream
  rw [hinit]
  simp only [← e, ← bitReorganization_eq _ hinv, ← nonlinF_eq ht]
  exact ksLoop_eq ht n _ _ (lfsr_work _ (nonlinF_inv _ hinv _ _ _))
end NasVerif.Proofs.ZucRefine

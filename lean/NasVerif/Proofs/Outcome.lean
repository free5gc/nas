import NasVerif.Prelude.Basic
/-!
`o.Post P`: `o` does not panic, and a value it returns satisfies `P` (an error is unconstrained).
`Outcome.Sim R x y`: `x` and `y` end the same way, returned values related by `R`.
Each has one rule for `>>=`, because unfolding `>>=` to its `match` makes definitional steps over the whole remaining `do`
block, which the kernel can only re-check by evaluating it.
-/
namespace NasVerif.Outcome
variable {α β γ δ : Type}

@[simp] theorem pure_eq (a : α) : (pure a : Outcome α) = ok a := rfl

theorem bind_eq_ok {o : Outcome α} {f : α → Outcome β} {b : β} :
    (o >>= f) = ok b ↔ ∃ a, o = ok a ∧ f a = ok b := by
  cases o <;> simp

def Post (o : Outcome α) (P : α → Prop) : Prop :=
  match o with
  | ok a => P a
  | err _ => True
  | panic => False

@[simp] theorem post_ok {a : α} {P : α → Prop} : (ok a).Post P ↔ P a := Iff.rfl
@[simp] theorem post_err {e : Err} {P : α → Prop} : (err e : Outcome α).Post P := trivial

theorem Post.ne_panic {o : Outcome α} {P : α → Prop} (h : o.Post P) : o ≠ panic := by
  rintro rfl; exact h

theorem Post.of_ok {o : Outcome α} {P : α → Prop} (h : o.Post P) {a : α} (e : o = ok a) : P a := by
  subst e; exact h

theorem Post.mono {o : Outcome α} {P Q : α → Prop} (h : o.Post P) (hpq : ∀ a, P a → Q a) : o.Post Q := by
  cases o <;> simp_all [Post]

theorem Post.bind {o : Outcome α} {P : α → Prop} {f : α → Outcome β} {Q : β → Prop}
    (h : o.Post P) (hf : ∀ a, o = ok a → P a → (f a).Post Q) : (o >>= f).Post Q := by
  cases o with
  | ok a => exact hf a rfl h
  | err e => trivial
  | panic => exact h

def Sim (R : α → β → Prop) (x : Outcome α) (y : Outcome β) : Prop :=
  match x with
  | ok a => ∃ b, y = ok b ∧ R a b
  | err e => y = err e
  | panic => y = panic

theorem Sim.bind {R : α → β → Prop} {S : γ → δ → Prop} {x : Outcome α} {y : Outcome β}
    {f : α → Outcome γ} {g : β → Outcome δ}
    (h : Sim R x y) (hfg : ∀ a b, x = ok a → R a b → Sim S (f a) (g b)) : Sim S (x >>= f) (y >>= g) := by
  cases x with
  | ok a => obtain ⟨b, rfl, hr⟩ := h; exact hfg a b rfl hr
  | err e => cases h; rfl
  | panic => cases h; rfl

theorem Sim.of_ok {R : α → β → Prop} {x : Outcome α} {y : Outcome β} (h : Sim R x y) {a : α} (e : x = ok a) :
    ∃ b, y = ok b ∧ R a b := by
  subst e; exact h

theorem Sim.of_err {R : α → β → Prop} {x : Outcome α} {y : Outcome β} (h : Sim R x y) {e : Err} (hx : x = err e) :
    y = err e := by
  subst hx; exact h

end NasVerif.Outcome

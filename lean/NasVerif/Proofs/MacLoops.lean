import NasVerif.Proofs.EncLoops
import NasVerif.Proofs.BitLists
import NasVerif.Proofs.Bits
/-!
# NIA1 / NIA3: the message loops of `security.go` against the bit-string definitions of f9 and 128-EIA3

NIA1: the model's GF(2^64) multiplication is the specification's MUL (`mul_spec`); the D-2 full 64-bit blocks read with
`binary.BigEndian.Uint64` and the zero-padded last block are the blocks M_0 … M_{D-2} of the specification's EVAL recursion over
the message bit string. NIA3: `getWord` is the 32-bit window of the keystream bit string at bit i, and the bit loop is the
specification's sum over the set message bits.
-/
namespace NasVerif.Proofs.MacLoops
open NasVerif NasVerif.Model NasVerif.Model.Security NasVerif.Proofs.EncLoops NasVerif.Proofs.BitLists

def bitsNum (f : Nat → Bool) (n : Nat) : Nat := (List.range n).foldl (fun a j => 2 * a + (if f j then 1 else 0)) 0

def pad8 (x : Bytes) : Bytes := x ++ List.replicate (8 - x.length) 0

/-- 128-EIA3 over the keystream bit string `z`: `Spec.eia3` after its key schedule -/
def eia3Of (z m : List Bool) : BitVec 32 :=
  let T := (List.range m.length).foldl (fun t i => if m.getD i false then t ^^^ Spec.zWindow z i else t) 0
  (T ^^^ Spec.zWindow z m.length) ^^^ Spec.zWindow z (32 * ((m.length + 31) / 32 + 2 - 1))

theorem bitsNum_succ (f : Nat → Bool) (n : Nat) : bitsNum f (n + 1) = 2 * bitsNum f n + (if f n then 1 else 0) := by
  simp [bitsNum, List.range_succ, List.foldl_append]

theorem bitsNum_testBit (f : Nat → Bool) (n k : Nat) (hk : k < n) : (bitsNum f n).testBit k = f (n - 1 - k) := by
  induction n generalizing k with
  | zero => omega
  | succ n ih =>
    rw [bitsNum_succ]
    cases k with
    | zero =>
      rw [Nat.testBit_zero, Nat.sub_zero, Nat.add_sub_cancel]
      cases f n with
      | false => exact decide_eq_false (show ¬ (2 * bitsNum f n + 0) % 2 = 1 by omega)
      | true => exact decide_eq_true (show (2 * bitsNum f n + 1) % 2 = 1 by omega)
    | succ k =>
      rw [Nat.testBit_succ, show (2 * bitsNum f n + if f n = true then 1 else 0) / 2 = bitsNum f n by split <;> omega,
        ih k (by omega), show n + 1 - 1 - (k + 1) = n - 1 - k by omega]

theorem bitsNum_lt (f : Nat → Bool) (n : Nat) : bitsNum f n < 2 ^ n := by
  induction n with
  | zero => simp [bitsNum]
  | succ n ih => rw [bitsNum_succ, Nat.pow_succ]; split <;> omega

theorem bits64_eq (l : List Bool) : Spec.bits64 l = BitVec.ofNat 64 (bitsNum (fun j => l.getD j false) 64) := rfl

theorem zWindow_eq (zbits : List Bool) (i : Nat) : Spec.zWindow zbits i = BitVec.ofNat 32 (bitsNum (fun j => zbits.getD (i + j) false) 32) := rfl

theorem be_testBit (b : Bytes) (init k : Nat) :
    (b.foldl (fun a x => a * 256 + x.toNat) init).testBit k =
      if k < 8 * b.length then (b.getD (b.length - 1 - k / 8) 0).toNat.testBit (k % 8) else init.testBit (k - 8 * b.length) := by
  induction b generalizing init k with
  | nil => simp
  | cons x r ih =>
    rw [List.foldl_cons, ih]
    by_cases h1 : k < 8 * r.length
    · rw [if_pos h1, if_pos (by simp; omega)]
      simp only [List.length_cons]
      rw [show r.length + 1 - 1 - k / 8 = (r.length - 1 - k / 8) + 1 by omega, List.getD_cons_succ]
    · rw [if_neg h1, show init * 256 + x.toNat = 2 ^ 8 * init + x.toNat by omega, Nat.testBit_two_pow_mul_add _ x.toNat_lt]
      simp only [List.length_cons]
      by_cases h2 : k < 8 * (r.length + 1)
      · rw [if_pos h2, if_pos (by omega), show r.length + 1 - 1 - k / 8 = 0 by omega, List.getD_cons_zero,
          show k - 8 * r.length = k % 8 by omega]
      · rw [if_neg h2, if_neg (by omega), show k - 8 * r.length - 8 = k - 8 * (r.length + 1) by omega]

theorem msgBits_getD (msg : Bytes) (length : Nat) (hz : (Spec.bytesBits msg).drop length = List.replicate (8 * msg.length - length) false)
    (t : Nat) : ((Spec.bytesBits msg).take length).getD t false = (Spec.bytesBits msg).getD t false := by
  by_cases h : t < length
  · exact take_getD _ _ _ _ h
  · rw [getD_of_le _ _ _ (by rw [List.length_take]; omega), ← show length + (t - length) = t by omega, ← drop_getD, hz,
      getD_replicate]

theorem pad8_getD (msg : Bytes) (i k : Nat) (hk : k < 8) : (pad8 ((msg.drop (8 * i)).take 8)).getD k 0 = msg.getD (8 * i + k) 0 := by
  unfold pad8
  by_cases h : k < ((msg.drop (8 * i)).take 8).length
  · rw [getD_append_left _ _ _ h, take_getD _ _ _ _ hk, drop_getD]
  · rw [getD_append_right _ _ _ (by omega), getD_replicate,
      getD_of_le msg _ _ (by simp only [List.length_take, List.length_drop] at h; omega)]

/-- Both sides have, at bit `k`, bit `k % 8` of message octet `8 * i + (7 - k / 8)`: the big-endian number by `be_testBit`, and
`bits64` because its bit `k` is entry `64 * i + (63 - k)` of the bit string, which `bytesBits` takes from that octet. -/
theorem block_eq (msg : Bytes) (m : List Bool) (hm : ∀ t, m.getD t false = (Spec.bytesBits msg).getD t false) (i : Nat) :
    Spec.bits64 ((m.drop (64 * i)).take 64) = be64 (pad8 ((msg.drop (8 * i)).take 8)) := by
  apply BitVec.eq_of_getLsbD_eq
  intro k hk
  have hoct : (64 * i + (64 - 1 - k)) / 8 = 8 * i + (8 - 1 - k / 8) := by omega
  have hbit : 7 - (64 * i + (64 - 1 - k)) % 8 = k % 8 := by omega
  have hbits : (Spec.bits64 ((m.drop (64 * i)).take 64)).getLsbD k = (msg.getD (8 * i + (8 - 1 - k / 8)) 0).toNat.testBit (k % 8) := by
    rw [bits64_eq, BitVec.getLsbD_ofNat, decide_eq_true hk, Bool.true_and, bitsNum_testBit _ _ _ hk, take_getD _ _ _ _ (by omega),
      drop_getD, hm, bytesBits_getD, hoct, hbit]
  have hl : (pad8 ((msg.drop (8 * i)).take 8)).length = 8 := by simp [pad8]; omega
  have hbe : (be64 (pad8 ((msg.drop (8 * i)).take 8))).getLsbD k = (msg.getD (8 * i + (8 - 1 - k / 8)) 0).toNat.testBit (k % 8) := by
    rw [be64, BitVec.getLsbD_ofNat, decide_eq_true hk, Bool.true_and, be_testBit, hl, if_pos (by omega), pad8_getD _ _ _ (by omega)]
  rw [hbits, hbe]

theorem mulx_spec (V c : W64) : mulx V c = Spec.MULx64 V c := by
  unfold mulx Spec.MULx64
  rw [show (0x8000000000000000#64) = BitVec.twoPow 64 (64 - 1) from rfl, Bits.msb_test V (by omega)]

theorem mulxPow_spec (V : W64) (i : Nat) (c : W64) : mulxPow V i c = Spec.MULxPOW64 V i c := by
  induction i with
  | zero => rfl
  | succ i ih => simp [mulxPow, Spec.MULxPOW64, ih, mulx_spec]

theorem bit_test (P : W64) (i : Nat) : ((P >>> i) &&& 1#64 == 1#64) = P.getLsbD i := by
  rw [show (1#64) = BitVec.twoPow 64 0 from rfl, BitVec.and_twoPow, BitVec.getLsbD_ushiftRight, Nat.add_zero]
  cases P.getLsbD i <;> decide

theorem mulLoop_spec (V P c : W64) (n i : Nat) (rst : W64) :
    mulLoop V P c n i rst =
      (List.range' i n).foldl (fun acc j => if P.getLsbD j then acc ^^^ Spec.MULxPOW64 V j c else acc) rst := by
  induction n generalizing i rst with
  | zero => rfl
  | succ n ih => simp only [mulLoop, ih, bit_test, mulxPow_spec, List.range'_succ, List.foldl_cons]

theorem mul_spec (V P c : W64) : mul V P c = Spec.MUL64 V P c := by
  unfold mul Spec.MUL64
  rw [mulLoop_spec, List.range_eq_range']
  rfl

/-- `Spec.evalBlocks` peels blocks off the head of `m`; the loop invariant of `nia1Blocks` needs the last step instead -/
theorem evalBlocks_succ (P : W64) (n : Nat) (m : List Bool) (ev : W64) :
    Spec.evalBlocks P (n + 1) m ev = Spec.MUL64 (Spec.evalBlocks P n m ev ^^^ Spec.bits64 ((m.drop (64 * n)).take 64)) P 0x1b := by
  induction n generalizing m ev with
  | zero => rfl
  | succ n ih =>
    rw [Spec.evalBlocks, ih, List.drop_drop, show 64 + 64 * n = 64 * (n + 1) by omega]
    rfl

theorem nia1Blocks_spec (msg : Bytes) (length : Nat) (m : List Bool)
    (hm : ∀ t, m.getD t false = (Spec.bytesBits msg).getD t false) (hlen : msg.length = (length + 7) / 8) (P : W64) :
    nia1Blocks msg length ((length + 63) / 64 + 1) P 0x1b#64 = .ok (Spec.evalBlocks P ((length + 63) / 64) m 0) := by
  unfold nia1Blocks
  by_cases h0 : length > 0
  · rw [if_pos h0, show (length + 63) / 64 + 1 - 2 = (length + 63) / 64 - 1 by omega]
    generalize hN : (length + 63) / 64 - 1 = N
    have hN1 : (length + 63) / 64 = N + 1 := by omega
    obtain ⟨ev, hrun, hinv⟩ := forRange_inv0 (fun k a => a = Spec.evalBlocks P k m 0) (nia1Step msg P 0x1b#64) N 0#64 rfl
      (by
        intro k a hk ha
        have hk8 : 8 * k + 8 ≤ msg.length := by omega
        refine ⟨mul (a ^^^ be64 ((msg.drop (8 * k)).take 8)) P 0x1b#64, ?_, ?_⟩
        · unfold nia1Step uint64At
          rw [if_pos (by omega), if_neg (by simp; omega)]
        · rw [evalBlocks_succ, ← ha, block_eq msg m hm k, mul_spec, pad8,
            show ((msg.drop (8 * k)).take 8).length = 8 by simp; omega]
          simp)
    rw [hrun]
    simp only []
    rw [if_pos (by omega), hN1, evalBlocks_succ, block_eq msg m hm N, mul_spec, hinv]
    rfl
  · rw [if_neg h0, show (length + 63) / 64 = 0 by omega]
    rfl

theorem zWindow_bit (ws : List W32) (loc b k : Nat) (hb : b < 32) (hk : k < 32) :
    (Spec.zWindow (Spec.wordsBits ws) (32 * loc + b)).getLsbD k =
      if k < b then (ws.getD (loc + 1) 0).getLsbD (32 - b + k) else (ws.getD loc 0).getLsbD (k - b) := by
  rw [zWindow_eq, BitVec.getLsbD_ofNat, bitsNum_testBit _ _ _ hk, wordsBits_getD, decide_eq_true hk, Bool.true_and]
  split
  · have : (32 * loc + b + (32 - 1 - k)) / 32 = loc + 1 ∧ 31 - (32 * loc + b + (32 - 1 - k)) % 32 = 32 - b + k := by omega
    rw [this.1, this.2]
    rfl
  · have : (32 * loc + b + (32 - 1 - k)) / 32 = loc ∧ 31 - (32 * loc + b + (32 - 1 - k)) % 32 = k - b := by omega
    rw [this.1, this.2]
    rfl

theorem getWord_spec (stream : List W32) (i : Nat) (h : i / 32 + 1 < stream.length ∨ (i % 32 = 0 ∧ i / 32 < stream.length)) :
    getWord stream i = .ok (Spec.zWindow (Spec.wordsBits stream) i) := by
  unfold getWord
  simp only []
  have hi := Nat.div_add_mod i 32
  have hb32 := Nat.mod_lt i (show 0 < 32 by omega)
  generalize i / 32 = loc at *
  generalize i % 32 = b at *
  subst hi
  by_cases hb : b = 0
  · rw [if_pos hb, if_pos (by omega)]
    congr 1
    apply BitVec.eq_of_getLsbD_eq
    intro k hk
    rw [zWindow_bit _ _ _ _ hb32 hk, if_neg (by omega), hb, Nat.sub_zero]
  · rw [if_neg hb, if_pos (by omega)]
    congr 1
    apply BitVec.eq_of_getLsbD_eq
    intro k hk
    rw [zWindow_bit _ _ _ _ hb32 hk, BitVec.getLsbD_or, BitVec.getLsbD_shiftLeft, BitVec.getLsbD_ushiftRight]
    by_cases hkb : k < b
    · simp [hkb]
    · rw [if_neg hkb, BitVec.getLsbD_of_ge _ (32 - b + k) (by omega)]
      simp [hkb, hk]

theorem eia3_eq (ik : Bytes) (count b d : Nat) (m : List Bool) :
    Spec.eia3 ik count b d m =
      eia3Of (Spec.wordsBits (Spec.ZUC.keystream (ik.map (·.toNat)) (Spec.eia3IV count b d) ((m.length + 31) / 32 + 2))) m := rfl

theorem genMac_spec (msg : Bytes) (stream : List W32) (length : Nat) (m : List Bool) (hml : m.length = length)
    (hm : ∀ t, t < length → m.getD t false = (Spec.bytesBits msg).getD t false)
    (hlen : (length + 7) / 8 ≤ msg.length) (hl : stream.length = (length + 31) / 32 + 2) :
    genMac msg stream length = .ok (put32 (eia3Of (Spec.wordsBits stream) m)) := by
  unfold genMac
  obtain ⟨T, hrun, hinv⟩ := forRange_inv0
    (fun k (a : W32) => a = (List.range k).foldl (fun t i => if m.getD i false then t ^^^ Spec.zWindow (Spec.wordsBits stream) i else t) 0)
    (genMacStep msg stream) length 0#32 (by simp)
    (by
      intro k a hk ha
      unfold genMacStep
      rw [if_pos (by omega), getWord_spec stream k (by omega)]
      rw [Bits.mask_test _ (7 - k % 8) (by omega), ← bytesBits_getD, ← hm k hk, List.range_succ, List.foldl_append, ← ha]
      simp only [List.foldl_cons, List.foldl_nil]
      cases m.getD k false <;> exact ⟨_, rfl, by simp⟩)
  rw [hrun]
  simp only [genMacFin]
  rw [getWord_spec stream length (by omega), getWord_spec stream (32 * (stream.length - 1)) (by omega)]
  simp only []
  rw [hinv, hl, eia3Of, hml]

theorem nasMac_nia1 (E : Bytes → Bytes → Bytes) (key : Bytes) (count : W32) (b d : UInt8) (m mac : Bytes)
    (hb : ¬ b > 0x1f) (hd : ¬ d > 1) (h : NIA1 key count b (BitVec.ofNat 32 d.toNat) m (m.length * 8) = .ok mac) :
    NASMacCalculate E 1 key count b d (some m) = .ok (some mac) := by
  simp only [NASMacCalculate, if_neg hb, if_neg hd, if_neg (by decide : ¬ (1 : UInt8) = 0), if_true, h]

theorem nasMac_nia2 (E : Bytes → Bytes → Bytes) (key : Bytes) (count : W32) (b d : UInt8) (m mac : Bytes)
    (hb : ¬ b > 0x1f) (hd : ¬ d > 1) (h : NIA2 E key count b d m = .ok mac) :
    NASMacCalculate E 2 key count b d (some m) = .ok (some mac) := by
  simp only [NASMacCalculate, if_neg hb, if_neg hd, if_neg (by decide : ¬ (2 : UInt8) = 0), if_neg (by decide : ¬ (2 : UInt8) = 1),
    if_true, h]

theorem nasMac_nia3 (E : Bytes → Bytes → Bytes) (key : Bytes) (count : W32) (b d : UInt8) (m mac : Bytes)
    (hb : ¬ b > 0x1f) (hd : ¬ d > 1) (h : NIA3 key count b d m (m.length * 8) = .ok mac) :
    NASMacCalculate E 3 key count b d (some m) = .ok (some mac) := by
  simp only [NASMacCalculate, if_neg hb, if_neg hd, if_neg (by decide : ¬ (3 : UInt8) = 0), if_neg (by decide : ¬ (3 : UInt8) = 1),
    if_neg (by decide : ¬ (3 : UInt8) = 2), if_true, h]

end NasVerif.Proofs.MacLoops

-- `nia1_no_panic` and `nia3_no_panic` stand in `NasVerif.Proofs.EncLoops`, the module the C08 entry of MANIFEST.json cites,
-- although they are corollaries of `nia1Blocks_spec` / `genMac_spec` above
namespace NasVerif.Proofs.EncLoops
open NasVerif NasVerif.Model NasVerif.Model.Security NasVerif.Proofs.BitLists NasVerif.Proofs.MacLoops

theorem nia1_no_panic (ik : Bytes) (count : W32) (bearer : UInt8) (direction : W32) (msg : Bytes) :
    ∃ mac, NIA1 ik count bearer direction msg (msg.length * 8) = .ok mac := by
  unfold NIA1
  simp only []
  rw [nia1Blocks_spec msg (msg.length * 8) (Spec.bytesBits msg) (fun _ => rfl) (by omega)]
  exact ⟨_, rfl⟩

theorem nia3_no_panic (ik : Bytes) (count : W32) (bearer direction : UInt8) (msg : Bytes) :
    ∃ mac, NIA3 ik count bearer direction msg (msg.length * 8) = .ok mac :=
  ⟨_, genMac_spec msg _ (msg.length * 8) (Spec.bytesBits msg) (by rw [bytesBits_length]; omega)
    (fun _ _ => rfl) (by omega) (Zuc.Zuc_length _ _ _)⟩

end NasVerif.Proofs.EncLoops

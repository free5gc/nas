import NasVerif.Codec.Heap
import NasVerif.Codec.Theorems
import NasVerif.Proofs.Bits
/-!
# Simulation between the heap-level codec interpreter and the value-level one (C10)

One relation, `Ext h h' refs`: the heap only grew, and `refs` are pairwise distinct regions of the growth. It composes
(`Ext.append`: what a later step allocates is disjoint from what an earlier one did), and each level of the decoder is
`Outcome.Sim` of the heap-level clause against the value-level one with `Ext` between the heaps, lifted by `Sim.bind`.
-/
namespace NasVerif.Codec.HeapSem
open Outcome

theorem IEValH.erase_congr (v : IEValH) {h1 h2 : Heap} (hv : ∀ r ∈ v.refs, h1.getD r [] = h2.getD r []) :
    v.erase h1 = v.erase h2 := by
  unfold IEValH.erase
  cases hs : v.st with
  | ref r => exact congrArg _ (hv r (by simp [IEValH.refs, hs]))
  | _ => rfl

/-- the optional half of `MsgValH.refs` and of `MsgValH.erase`: what the loop's accumulator refers to and stands for -/
def slotRefs (sh : List (Option IEValH)) : List Nat := sh.flatMap (fun o => match o with | some v => v.refs | none => [])
def eraseSlots (h : Heap) (sh : List (Option IEValH)) : Slots := sh.map (Option.map (IEValH.erase h))

theorem MsgValH.refs_mk (mv : List IEValH) (ov : List (Option IEValH)) :
    (⟨mv, ov⟩ : MsgValH).refs = mv.flatMap IEValH.refs ++ slotRefs ov := rfl

theorem MsgValH.erase_mk (h : Heap) (mv : List IEValH) (ov : List (Option IEValH)) :
    MsgValH.erase h ⟨mv, ov⟩ = ⟨mv.map (IEValH.erase h), eraseSlots h ov⟩ := rfl

theorem eraseSlots_congr (sh : List (Option IEValH)) {h1 h2 : Heap} (hv : ∀ r ∈ slotRefs sh, h1.getD r [] = h2.getD r []) :
    eraseSlots h1 sh = eraseSlots h2 sh := by
  refine List.map_congr_left fun o ho => ?_
  cases o with
  | none => rfl
  | some v => exact congrArg some (v.erase_congr fun r hr => hv r (List.mem_flatMap.mpr ⟨some v, ho, hr⟩))

theorem MsgValH.erase_congr (m : MsgValH) {h1 h2 : Heap} (hv : ∀ r ∈ m.refs, h1.getD r [] = h2.getD r []) :
    m.erase h1 = m.erase h2 := by
  obtain ⟨mv, ov⟩ := m
  rw [MsgValH.refs_mk] at hv
  rw [MsgValH.erase_mk, MsgValH.erase_mk]
  congr 1
  · exact List.map_congr_left fun v hvm => v.erase_congr fun r hr =>
      hv r (List.mem_append_left _ (List.mem_flatMap.mpr ⟨v, hvm, hr⟩))
  · exact eraseSlots_congr ov fun r hr => hv r (List.mem_append_right _ hr)

theorem refs_nodup (v : IEValH) : v.refs.Nodup := by
  unfold IEValH.refs
  cases v.st <;> simp

structure Ext (h h' : Heap) (refs : List Nat) : Prop where
  ext : ∃ e, h' = h ++ e
  nodup : refs.Nodup
  fresh : ∀ x ∈ refs, h.length ≤ x ∧ x < h'.length

theorem Ext.refl (h : Heap) : Ext h h [] := ⟨⟨[], by simp⟩, List.nodup_nil, by simp⟩

theorem Ext.alloc (h : Heap) (x : Bytes) : Ext h (h ++ [x]) [h.length] := ⟨⟨_, rfl⟩, by simp, by simp⟩

theorem Ext.append {h h1 h2 : Heap} {r1 r2 : List Nat} (a : Ext h h1 r1) (b : Ext h1 h2 r2) : Ext h h2 (r1 ++ r2) := by
  obtain ⟨e1, rfl⟩ := a.ext
  obtain ⟨e2, rfl⟩ := b.ext
  refine ⟨⟨e1 ++ e2, by simp⟩, List.nodup_append.mpr ⟨a.nodup, b.nodup, ?_⟩, ?_⟩
  · intro x hx y hy hxy; have := (a.fresh x hx).2; have := (b.fresh y hy).1; omega
  · intro x hx
    rcases List.mem_append.mp hx with hx | hx
    · have := a.fresh x hx; simp at this ⊢; omega
    · have := b.fresh x hx; simp at this ⊢; omega

theorem Ext.erase {h h1 h2 : Heap} {v : IEValH} {r1 r2 : List Nat} (a : Ext h h1 r1) (hv : ∀ x ∈ v.refs, x ∈ r1)
    (b : Ext h1 h2 r2) : v.erase h2 = v.erase h1 := by
  obtain ⟨e2, rfl⟩ := b.ext
  exact v.erase_congr fun r hr => getD_append_left h1 e2 [] (a.fresh r (hv r hr)).2

/-- what one element returns at the two levels: `p` = (element, input left, new heap), `q` = (element, input left) -/
def ElemRel (h : Heap) (p : IEValH × Bytes × Heap) (q : IEVal × Bytes) : Prop :=
  Ext h p.2.2 p.1.refs ∧ q = (p.1.erase p.2.2, p.2.1)

theorem decContentH_sim (s : Slot) (iei : UInt8) (len : Nat) (bs1 : Bytes) (h : Heap) :
    Sim (ElemRel h) (decContentH s iei len bs1 h) (decContent s iei len bs1) := by
  have inl : ∀ d r, Sim (ElemRel h) (.ok (⟨iei, len, .inline d⟩, r, h)) (.ok (⟨iei, len, d⟩, r)) :=
    fun d r => ⟨_, rfl, Ext.refl h, rfl⟩
  unfold decContentH decContent
  cases s.store with
  | octet => cases bs1 with
    | nil => rfl
    | cons b r => exact inl _ _
  | arr n =>
    cases s.span with
    | all =>
      dsimp only
      split; · rfl
      exact inl _ _
    | toLen =>
      dsimp only
      split; · rfl
      split; · rfl
      exact inl _ _
  | buf =>
    by_cases ha : s.alloc = true
    · simp only [ha, if_true]; split; · rfl
      exact ⟨_, rfl, Ext.alloc h _, by simp [IEValH.erase, Storage.resolve]⟩
    · simp only [ha, if_false, Bool.false_eq_true, Nat.not_lt_zero, List.take_zero, List.drop_zero]
      exact ⟨_, rfl, Ext.refl h, rfl⟩
  | unit => exact inl _ _

theorem decBodyH_sim (s : Slot) (iei : UInt8) (bs : Bytes) (h : Heap) :
    Sim (ElemRel h) (decBodyH s iei bs h) (decBody s iei bs) := by
  unfold decBodyH decBody
  cases readLen s.lenSize bs with
  | none => rfl
  | some p =>
    dsimp only
    split; · rfl
    exact decContentH_sim s iei p.1 p.2 h

theorem decOptH_sim (d : OptSlot) (b : UInt8) (rest : Bytes) (h : Heap) :
    Sim (ElemRel h) (decOptH d b rest h) (decOpt d b rest) := by
  unfold decOptH decOpt
  split
  · exact ⟨_, rfl, Ext.refl h, rfl⟩
  · exact decBodyH_sim _ _ _ _

theorem decManH_cons (s : Slot) (ss : List Slot) (bs : Bytes) (h : Heap) :
    decManH (s :: ss) bs h =
      decBodyH s 0 bs h >>= fun p => decManH ss p.2.1 p.2.2 >>= fun q => pure (p.1 :: q.1, q.2.1, q.2.2) := by
  rw [decManH]
  cases decBodyH s 0 bs h with
  | ok p => obtain ⟨v, r, h1⟩ := p; simp only [bind_ok]; cases decManH ss r h1 <;> rfl
  | _ => rfl

theorem decManH_sim (ss : List Slot) (bs : Bytes) (h : Heap) :
    Sim (fun (p : List IEValH × Bytes × Heap) (q : List IEVal × Bytes) =>
          Ext h p.2.2 (p.1.flatMap IEValH.refs) ∧ q = (p.1.map (IEValH.erase p.2.2), p.2.1))
      (decManH ss bs h) (decMan ss bs) := by
  induction ss generalizing bs h with
  | nil => exact ⟨_, rfl, Ext.refl h, rfl⟩
  | cons s ss ih =>
    rw [decManH_cons, decMan_cons]
    refine (decBodyH_sim s 0 bs h).bind fun p _ _ ⟨e1, hq⟩ => ?_
    subst hq
    refine (ih p.2.1 p.2.2).bind fun q _ _ ⟨e2, hq⟩ => ?_
    subst hq
    exact ⟨_, rfl, by simpa using e1.append e2, by simp [e1.erase (fun _ hx => hx) e2]⟩

theorem slotRefs_set (sh : List (Option IEValH)) (i : Nat) (v : IEValH) (x : Nat) (hx : x ∈ slotRefs (sh.set i (some v))) :
    x ∈ slotRefs sh ∨ x ∈ v.refs := by
  simp only [slotRefs, List.mem_flatMap] at hx ⊢
  obtain ⟨o, ho, hxo⟩ := hx
  rcases List.mem_or_eq_of_mem_set ho with h | h
  · exact Or.inl ⟨o, h, hxo⟩
  · subst h; exact Or.inr hxo

theorem slotRefs_cons (o : Option IEValH) (sh : List (Option IEValH)) :
    slotRefs (o :: sh) = (match o with | some v => v.refs | none => []) ++ slotRefs sh := by
  cases o <;> simp [slotRefs]

theorem slotRefs_set_nodup (sh : List (Option IEValH)) (i : Nat) (v : IEValH) (hn : (slotRefs sh).Nodup)
    (hdis : ∀ x ∈ v.refs, x ∉ slotRefs sh) : (slotRefs (sh.set i (some v))).Nodup := by
  induction sh generalizing i with
  | nil => simpa using hn
  | cons o sh ih =>
    rw [slotRefs_cons, List.nodup_append] at hn
    obtain ⟨h1, h2, h3⟩ := hn
    simp only [slotRefs_cons, List.mem_append, not_or] at hdis
    cases i with
    | zero =>
      rw [List.set_cons_zero, slotRefs_cons, List.nodup_append]
      exact ⟨refs_nodup v, h2, fun a ha _ hb hab => (hdis a ha).2 (hab ▸ hb)⟩
    | succ i =>
      rw [List.set_cons_succ, slotRefs_cons, List.nodup_append]
      refine ⟨h1, ih i h2 fun x hx => (hdis x hx).2, fun a ha _ hb hab => ?_⟩
      subst hab
      rcases slotRefs_set sh i v a hb with hb | hb
      · exact h3 a ha a hb rfl
      · exact (hdis a hb).1 ha

theorem slotRefs_replicate (n : Nat) : slotRefs (List.replicate n none) = [] := by
  simp [slotRefs]

theorem eraseSlots_replicate (h : Heap) (n : Nat) : eraseSlots h (List.replicate n none) = List.replicate n none := by
  simp [eraseSlots]

theorem decLoopH_cons (defs : List OptSlot) (fuel : Nat) (b : UInt8) (rest : Bytes) (sh : List (Option IEValH)) (h : Heap) :
    decLoopH defs (fuel + 1) (b :: rest) sh h =
      match findSlot defs (tmpIei b) 0 with
      | none => decLoopH defs fuel rest sh h
      | some (i, d) => decOptH d b rest h >>= fun p => decLoopH defs fuel p.2.1 (sh.set i (some p.1)) p.2.2 := by
  rw [decLoopH]
  cases findSlot defs (tmpIei b) 0 with
  | none => rfl
  | some p => obtain ⟨i, d⟩ := p; dsimp only; cases decOptH d b rest h <;> rfl

/-- overwriting a slot with a freshly decoded element keeps the loop invariant (the overwritten element's region, if any,
is merely no longer referenced) -/
theorem Ext.set {h0 h h1 : Heap} {sh : List (Option IEValH)} {v : IEValH} (i : Nat)
    (a : Ext h0 h (slotRefs sh)) (b : Ext h h1 v.refs) :
    Ext h0 h1 (slotRefs (sh.set i (some v))) ∧
      eraseSlots h1 (sh.set i (some v)) = (eraseSlots h sh).set i (some (v.erase h1)) := by
  have hab := a.append b
  obtain ⟨e1, rfl⟩ := b.ext
  refine ⟨⟨hab.ext, ?_, ?_⟩, ?_⟩
  · exact slotRefs_set_nodup sh i v a.nodup fun x hx hc => by
      have := (b.fresh x hx).1; have := (a.fresh x hc).2; omega
  · exact fun x hx => hab.fresh x (List.mem_append.mpr (slotRefs_set sh i v x hx))
  · have : eraseSlots (h ++ e1) sh = eraseSlots h sh :=
      eraseSlots_congr sh fun x hx => getD_append_left h e1 [] (a.fresh x hx).2
    unfold eraseSlots at this ⊢
    rw [List.map_set, Option.map_some, this]

theorem decLoopH_sim (defs : List OptSlot) (h0 : Heap) (fuel : Nat) (bs : Bytes) (sh : List (Option IEValH)) (h : Heap)
    (inv : Ext h0 h (slotRefs sh)) :
    Sim (fun (p : List (Option IEValH) × Heap) (q : Slots) => Ext h0 p.2 (slotRefs p.1) ∧ q = eraseSlots p.2 p.1)
      (decLoopH defs fuel bs sh h) (decLoop defs fuel bs (eraseSlots h sh)) := by
  induction fuel generalizing bs sh h with
  | zero => exact ⟨_, rfl, inv, rfl⟩
  | succ n ih =>
    cases bs with
    | nil => exact ⟨_, rfl, inv, rfl⟩
    | cons b rest =>
      rw [decLoopH_cons, decLoop_cons]
      cases findSlot defs (tmpIei b) 0 with
      | none => exact ih rest sh h inv
      | some p =>
        refine (decOptH_sim p.2 b rest h).bind fun q _ _ ⟨e1, hq⟩ => ?_
        subst hq
        obtain ⟨inv', hes⟩ := inv.set p.1 e1
        simpa only [hes] using ih q.2.1 _ q.2.2 inv'

theorem decodeH_eq (d : MsgDef) (h : Heap) (inp : Nat) :
    decodeH d h inp = decManH d.man (h.getD inp []) h >>= fun p =>
      decLoopH d.opt p.2.1.length p.2.1 (List.replicate d.opt.length none) p.2.2 >>= fun q => pure (⟨p.1, q.1⟩, q.2) := by
  rw [decodeH]
  cases decManH d.man (h.getD inp []) h with
  | ok p =>
    obtain ⟨mv, r, h1⟩ := p; simp only [bind_ok]
    cases decLoopH d.opt r.length r (List.replicate d.opt.length none) h1 <;> rfl
  | _ => rfl

theorem decodeH_sim (d : MsgDef) (h : Heap) (inp : Nat) :
    Sim (fun (p : MsgValH × Heap) (m : MsgVal) => Ext h p.2 p.1.refs ∧ m = p.1.erase p.2)
      (decodeH d h inp) (decode d (h.getD inp [])) := by
  rw [decodeH_eq, decode_eq]
  refine (decManH_sim d.man _ h).bind fun p _ _ ⟨e1, hq⟩ => ?_
  subst hq
  have := decLoopH_sim d.opt p.2.2 p.2.1.length p.2.1 (List.replicate d.opt.length none) p.2.2
    (by rw [slotRefs_replicate]; exact Ext.refl _)
  rw [eraseSlots_replicate] at this
  refine this.bind fun q _ _ ⟨e2, hq⟩ => ?_
  subst hq
  refine ⟨_, rfl, by rw [MsgValH.refs_mk]; exact e1.append e2, ?_⟩
  rw [MsgValH.erase_mk]
  congr 1
  exact List.map_congr_left fun v hv => (e1.erase (fun x hx => List.mem_flatMap.mpr ⟨v, hv, hx⟩) e2).symm

theorem decodeH_ok {d : MsgDef} {h : Heap} {inp : Nat} {m : MsgValH} {h' : Heap} (hd : decodeH d h inp = .ok (m, h')) :
    Ext h h' m.refs ∧ decode d (h.getD inp []) = .ok (m.erase h') := by
  obtain ⟨_, h1, h2, rfl⟩ := (decodeH_sim d h inp).of_ok hd
  exact ⟨h2, h1⟩

end NasVerif.Codec.HeapSem

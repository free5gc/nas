import NasVerif.Proofs.UePolicyLemmas
import NasVerif.Model.UePolicyApi
namespace NasVerif.Proofs.UePolicy
open NasVerif NasVerif.Model.Qos NasVerif.Model.UePolicy NasVerif.Proofs.Qos

/-! The domains of the API theorems of `Props/C18.lean`. `expect…`: what a description is expected to decode to, computed from the
description alone (every length from content, the PLMN octets of TS 24.008 10.5.1.13). `Valid…D`: the descriptions on which the
construction script of `Model/UePolicyApi.lean` succeeds and its result round-trips. -/

def expectPart (d : PartD) : Part := ⟨UInt16.ofNat (1 + d.content.length), d.typ, d.content⟩
def expectInstr (d : InstrD) : Instr :=
  ⟨UInt16.ofNat (((d.parts.map expectPart).flatMap marshalPart).length + 2), d.upsc, d.parts.map expectPart⟩
def expectSubList (d : SubListD) : SubList :=
  let o := (plmnOfNumbers d.mcc d.mnc).octets
  ⟨UInt16.ofNat (3 + ((d.instrs.map expectInstr).flatMap marshalInstr).length), o.getD 0 0, o.getD 1 0, o.getD 2 0, d.mcc, d.mnc,
   d.instrs.map expectInstr⟩
def expectSubResult (d : SubResultD) : SubResult :=
  let o := (plmnOfNumbers d.mcc d.mnc).octets
  ⟨UInt16.ofNat (3 + 5 * d.results.length), o.getD 0 0, o.getD 1 0, o.getD 2 0, d.mcc, d.mnc,
   d.results.map fun x => ⟨x.1, x.2, 0x6f⟩⟩

def ValidPartD (d : PartD) : Prop :=
  (d.byContent = true ∨ d.len = 0 ∨ d.len.toNat = 1 + d.content.length) ∧ 1 + d.content.length < 65536
def ValidInstrD (d : InstrD) : Prop :=
  (∀ p ∈ d.parts, ValidPartD p) ∧ ((d.parts.map expectPart).flatMap marshalPart).length + 2 < 65536
def ValidSubListD (d : SubListD) : Prop :=
  100 ≤ d.mcc ∧ d.mcc ≤ 999 ∧ 9 ≤ d.mnc ∧ d.mnc ≤ 999 ∧ (∀ i ∈ d.instrs, ValidInstrD i) ∧
    3 + ((d.instrs.map expectInstr).flatMap marshalInstr).length < 65536
def ValidSubResultD (d : SubResultD) : Prop :=
  100 ≤ d.mcc ∧ d.mcc ≤ 999 ∧ 9 ≤ d.mnc ∧ d.mnc ≤ 999 ∧ 3 + 5 * d.results.length < 65536

theorem foldl_append_map {α β} (f : α → β) (l : List α) (init : List β) :
    l.foldl (fun acc x => acc ++ [f x]) init = init ++ l.map f := by
  induction l generalizing init with
  | nil => simp
  | cons a r ih => simp [List.foldl, ih]

theorem buildAll_ok {D S S'} {build1 : D → Outcome S} {loop : List D → List S → Outcome (List S)} {WF : S → Prop}
    {norm : S → S'} {expect : D → S'} (hnil : ∀ acc, loop [] acc = .ok acc)
    (hcons : ∀ d ds acc, loop (d :: ds) acc = build1 d >>= fun s => loop ds (acc ++ [s]))
    (ds : List D) (h : ∀ d ∈ ds, ∃ s, build1 d = .ok s ∧ WF s ∧ norm s = expect d) (acc : List S) :
    ∃ l, loop ds acc = .ok (acc ++ l) ∧ (∀ s ∈ l, WF s) ∧ l.map norm = ds.map expect := by
  induction ds generalizing acc with
  | nil => exact ⟨[], by simp [hnil], by simp, rfl⟩
  | cons d r ih =>
    obtain ⟨⟨s, hs, hw, hn⟩, hr⟩ := List.forall_mem_cons.mp h
    obtain ⟨l, hl, hwl, hnl⟩ := ih hr (acc ++ [s])
    exact ⟨s :: l, by simp [hcons, hs, hl], fun x hx => (List.mem_cons.mp hx).elim (· ▸ hw) (hwl x), by simp [hn, hnl]⟩

theorem buildPart_fields (d : PartD) :
    buildPart d = ⟨if d.byContent then 1 + UInt16.ofNat d.content.length else d.len, d.typ, d.content⟩ := by
  unfold buildPart
  cases d.byContent <;> simp [Part.zero, Part.setLen, Part.setPartType, Part.setPartContent, Part.setLenByContent]

theorem buildInstr_fields (d : InstrD) : buildInstr d = ⟨d.len, d.upsc, d.parts.map buildPart⟩ := by
  simp only [buildInstr, Instr.zero, Instr.setLen, Instr.setUpsc, appendPart, foldl_append_map, List.nil_append]

theorem buildSubList_fields (d : SubListD) (a b c : UInt8) (h : setPlmnDigit d.mcc d.mnc = .ok (a, b, c)) :
    buildSubList d = .ok ⟨d.len, a, b, c, d.mcc, d.mnc, d.instrs.map buildInstr⟩ := by
  simp only [buildSubList, SubList.zero, SubList.setLen, SubList.setPlmnDigit, h, Outcome.bind_ok, appendInstr, foldl_append_map]
  rfl

theorem wf_buildPart (d : PartD) (h : ValidPartD d) : WFPart (buildPart d) := by
  rw [buildPart_fields]
  obtain ⟨h1, h2⟩ := h
  refine ⟨?_, h2⟩
  cases hb : d.byContent with
  | true => exact .inr (by simp; omega)
  | false => simpa [hb] using h1

theorem norm_buildPart (d : PartD) : normPart (buildPart d) = expectPart d := by
  rw [buildPart_fields]; rfl

theorem marshal_buildParts (ds : List PartD) (h : ∀ p ∈ ds, ValidPartD p) :
    (ds.map buildPart).flatMap marshalPart = (ds.map expectPart).flatMap marshalPart :=
  flatMap_map_congr marshalPart fun d hd => by rw [← norm_buildPart, marshalPart_norm (wf_buildPart d (h d hd))]

theorem wf_buildInstr (d : InstrD) (h : ValidInstrD d) : WFInstr (buildInstr d) := by
  rw [buildInstr_fields]
  refine ⟨List.forall_mem_map.mpr fun p hp => wf_buildPart p (h.1 p hp), ?_⟩
  show ((d.parts.map buildPart).flatMap marshalPart).length + 2 < 65536
  rw [marshal_buildParts d.parts h.1]; exact h.2

theorem norm_buildInstr (d : InstrD) (h : ValidInstrD d) : normInstr (buildInstr d) = expectInstr d := by
  rw [buildInstr_fields]
  simp only [normInstr, expectInstr, marshal_buildParts d.parts h.1, List.map_map]
  congr 1
  exact List.map_congr_left fun a _ => norm_buildPart a

theorem marshal_buildInstrs (ds : List InstrD) (h : ∀ p ∈ ds, ValidInstrD p) :
    (ds.map buildInstr).flatMap marshalInstr = (ds.map expectInstr).flatMap marshalInstr :=
  flatMap_map_congr marshalInstr fun d hd => by
    rw [← norm_buildInstr d (h d hd), marshalInstr_norm (wf_buildInstr d (h d hd))]

theorem buildRes_fields (x : UInt16 × UInt16) : buildRes x = ⟨x.1, x.2, 0x6f⟩ := rfl

theorem flatMap_marshalRes_len (l : List Res) : (l.flatMap marshalRes).length = 5 * l.length :=
  flatMap_length _ 5 (fun _ => rfl) l

theorem buildSubResult_fields (d : SubResultD) (a b c : UInt8) (h : setPlmnDigit d.mcc d.mnc = .ok (a, b, c)) :
    buildSubResult d = .ok ⟨d.len, a, b, c, d.mcc, d.mnc, d.results.map buildRes⟩ := by
  simp only [buildSubResult, SubResult.zero, SubResult.setLen, SubResult.setPlmnDigit, h, Outcome.bind_ok, appendRes, foldl_append_map]
  rfl

end NasVerif.Proofs.UePolicy

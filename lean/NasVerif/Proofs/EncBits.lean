import NasVerif.Proofs.EncLoops
import NasVerif.Proofs.BitLists
/-!
# NEA1 / NEA3 for every bit length, at the level of bit strings

The byte loops of `security.go` (full words, then the ⌈r/8⌉ octets of the partial word; NEA1 masks the last keystream word,
NEA3 masks the last octet and zeroes what follows) are reduced to: "the first LENGTH bits of the output are the input bits XOR
the first LENGTH keystream bits" — the form in which f8 and 128-EEA3 are defined.
-/
namespace NasVerif.Proofs.EncBits
open NasVerif NasVerif.Model NasVerif.Model.Security NasVerif.Proofs.EncLoops NasVerif.Proofs.BitLists

def BitsOK (p : Bytes) (ws : List W32) (length : Nat) (obs : Bytes) : Prop :=
  obs.length = p.length ∧ ∀ t, t < length →
    (Spec.bytesBits obs).getD t false = ((Spec.bytesBits p).getD t false != (Spec.wordsBits ws).getD t false)

theorem shl_mask_bit : ∀ r, r < 8 → ∀ i, i < 8 → r ≤ i → ((0xff : UInt8) <<< UInt8.ofNat r).toNat.testBit i = true := by decide

theorem sweep_bitsOK (p obs : Bytes) (ws : List W32) (length : Nat) (hs : Sweep p (wordsByte ws) ((length + 7) / 8) obs)
    (hlen : (length + 7) / 8 ≤ p.length) : BitsOK p ws length obs := by
  refine ⟨hs.1, fun t ht => ?_⟩
  have hx := hs.2 (t / 8) (by omega)
  rw [if_pos (by omega)] at hx
  rw [bytesBits_getD, bytesBits_getD, hx, UInt8.toNat_xor, Nat.testBit_xor, wordsByte_bits]

theorem BitsOK.keep {p : Bytes} {ws : List W32} {length : Nat} {obs : Bytes} (h : BitsOK p ws length obs) (obs' : Bytes)
    (hl : obs'.length = obs.length)
    (hb : ∀ t, t < length → (Spec.bytesBits obs').getD t false = (Spec.bytesBits obs).getD t false) :
    BitsOK p ws length obs' :=
  ⟨hl.trans h.1, fun t ht => (hb t ht).trans (h.2 t ht)⟩

theorem bitsOK_spec (p obs : Bytes) (ws : List W32) (length : Nat) (hs : BitsOK p ws length obs)
    (hlen : (length + 7) / 8 ≤ p.length) (hws : length ≤ 32 * ws.length) :
    (Spec.bytesBits obs).take length = Spec.xorBits ((Spec.bytesBits p).take length) ((Spec.wordsBits ws).take length) :=
  take_eq_xorBits _ _ _ length (by rw [bytesBits_length, hs.1]; omega) (by rw [bytesBits_length]; omega)
    (by rw [wordsBits_length]; exact hws) hs.2

theorem nea1_bits (ck : Bytes) (count bearer direction : W32) (p : Bytes) (length : Nat) (hlen : (length + 7) / 8 ≤ p.length) :
    ∃ obs, NEA1 ck count bearer direction p length = .ok obs ∧ obs.length = p.length ∧
      (Spec.bytesBits obs).take length = Spec.xorBits ((Spec.bytesBits p).take length)
        ((Spec.wordsBits (Snow3g.GetKeyStream (keyWords ck) (snowIv count bearer direction) ((length + 31) / 32))).take length) := by
  obtain ⟨obs, hrun, hs⟩ := nea1_sweep ck count bearer direction p length hlen
  have hb := sweep_bitsOK p obs _ length hs hlen
  refine ⟨obs, hrun, hs.1, bitsOK_spec p obs _ length ⟨hb.1, fun t ht => ?_⟩ hlen (by rw [Snow3g.GetKeyStream_length]; omega)⟩
  rw [hb.2 t ht, nea1Ks_bit _ _ _ _ _ _ ht]

theorem BitsOK.keep_nea3Tail {p : Bytes} {ws : List W32} {length : Nat} {obs : Bytes} (h : BitsOK p ws length obs)
    (hlen : (length + 7) / 8 ≤ p.length) : BitsOK p ws length (nea3Tail length obs) := by
  have hl := h.1
  have hm : BitsOK p ws length
      (if length % 8 ≠ 0 then obs.set (length / 8) (obs.getD (length / 8) 0 &&& (0xff <<< UInt8.ofNat (8 - length % 8))) else obs) := by
    by_cases h8 : length % 8 ≠ 0
    · rw [if_pos h8]
      refine h.keep _ (by simp) (fun t ht => ?_)
      rw [bytesBits_getD, bytesBits_getD]
      by_cases he : t / 8 = length / 8
      · rw [he, getD_set_eq _ _ _ _ (by omega), UInt8.toNat_and, Nat.testBit_and, shl_mask_bit _ (by omega) _ (by omega) (by omega),
          Bool.and_true]
      · rw [getD_set_ne _ _ _ _ _ (Ne.symm he)]
    · rwa [if_neg h8]
  unfold nea3Tail
  generalize (if length % 8 ≠ 0 then _ else obs : Bytes) = obs2 at hm ⊢
  have hl2 := hm.1
  refine hm.keep _ (by simp; omega) (fun t ht => ?_)
  rw [bytesBits_getD, bytesBits_getD, getD_append_left _ _ _ (by simp; omega), take_getD _ _ _ _ (by omega)]

theorem nea3_bits (ck : Bytes) (count : W32) (bearer direction : UInt8) (p : Bytes) (length : Nat) (hlen : (length + 7) / 8 ≤ p.length) :
    ∃ obs, NEA3 ck count bearer direction p length = .ok obs ∧ obs.length = p.length ∧
      (Spec.bytesBits obs).take length = Spec.xorBits ((Spec.bytesBits p).take length)
        ((Spec.wordsBits (zucStream ck count bearer direction ((length + 31) / 32))).take length) := by
  obtain ⟨obs, hrun, hs⟩ := nea3_sweep ck count bearer direction p length hlen
  have hb := (sweep_bitsOK p obs _ length hs hlen).keep_nea3Tail hlen
  exact ⟨_, hrun, hb.1, bitsOK_spec p _ _ length hb hlen (by rw [zucStream, Zuc.Zuc_length]; omega)⟩

def kbz (ck : Bytes) (count : W32) (bearer direction : UInt8) (length idx : Nat) : UInt8 :=
  ksByte ((zucStream ck count bearer direction ((length + 31) / 32)).getD (idx / 4) 0) (idx % 4)

end NasVerif.Proofs.EncBits

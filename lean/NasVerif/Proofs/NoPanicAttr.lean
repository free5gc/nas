import Lean.Meta.Tactic.Simp.RegisterCommand
/-- the rules that rewrite `NoPanic (do …)` to the bounds its checked primitives need -/
register_simp_attr np_simp

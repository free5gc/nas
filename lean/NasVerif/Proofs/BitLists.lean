import NasVerif.Spec.EEA
import NasVerif.Proofs.Bits
/-! The bit strings of `Spec/EEA.lean` (octets and words, most significant bit first), element by element -/
namespace NasVerif.Proofs.BitLists
open NasVerif NasVerif.Spec

theorem byteBits_length (b : UInt8) : (byteBits b).length = 8 := by simp [byteBits]
theorem wordBits_length (w : BitVec 32) : (wordBits w).length = 32 := by simp [wordBits]
theorem bytesBits_length (bs : Bytes) : (bytesBits bs).length = 8 * bs.length := flatMap_length _ 8 byteBits_length bs
theorem wordsBits_length (ws : List (BitVec 32)) : (wordsBits ws).length = 32 * ws.length := flatMap_length _ 32 wordBits_length ws

theorem byteBits_getD (b : UInt8) (i : Nat) (hi : i < 8) : (byteBits b).getD i false = b.toNat.testBit (7 - i) := by
  simp [byteBits, List.getD_eq_getElem?_getD, hi]
theorem wordBits_getD (w : BitVec 32) (i : Nat) (hi : i < 32) : (wordBits w).getD i false = w.toNat.testBit (31 - i) := by
  simp [wordBits, List.getD_eq_getElem?_getD, hi]

theorem bytesBits_getD (bs : Bytes) (t : Nat) : (bytesBits bs).getD t false = (bs.getD (t / 8) 0).toNat.testBit (7 - t % 8) := by
  unfold bytesBits
  rw [flatMap_getD byteBits 8 (by omega) byteBits_length 0 false (fun j hj => by rw [byteBits_getD _ _ hj]; exact Nat.zero_testBit _) bs t,
    byteBits_getD _ _ (Nat.mod_lt _ (by omega))]

theorem wordsBits_getD (ws : List (BitVec 32)) (t : Nat) :
    (wordsBits ws).getD t false = (ws.getD (t / 32) 0).toNat.testBit (31 - t % 32) := by
  unfold wordsBits
  rw [flatMap_getD wordBits 32 (by omega) wordBits_length 0 false (fun j hj => by rw [wordBits_getD _ _ hj]; exact Nat.zero_testBit _) ws t,
    wordBits_getD _ _ (Nat.mod_lt _ (by omega))]

theorem take_bytesBits_length (bs : Bytes) (n : Nat) (h : n ≤ 8 * bs.length) : ((bytesBits bs).take n).length = n := by
  rw [List.length_take, bytesBits_length]; omega

theorem take_bytesBits_all (bs : Bytes) : (bytesBits bs).take (bs.length * 8) = bytesBits bs :=
  List.take_of_length_le (by rw [bytesBits_length]; omega)

theorem xorBits_getD (a b : List Bool) (t : Nat) (ha : t < a.length) (hb : t < b.length) :
    (xorBits a b).getD t false = (a.getD t false != b.getD t false) := by
  simp [xorBits, List.getD_eq_getElem?_getD, List.getElem?_zipWith, List.getElem?_eq_getElem ha, List.getElem?_eq_getElem hb]

theorem xorBits_length (a b : List Bool) : (xorBits a b).length = min a.length b.length := by simp [xorBits]

theorem take_eq_xorBits (a b c : List Bool) (n : Nat) (ha : n ≤ a.length) (hb : n ≤ b.length) (hc : n ≤ c.length)
    (h : ∀ t, t < n → a.getD t false = (b.getD t false != c.getD t false)) : a.take n = xorBits (b.take n) (c.take n) := by
  apply ext_getD _ _ false
  · simp only [List.length_take, xorBits_length]; omega
  · intro t ht
    have ht' : t < n := by simp only [List.length_take] at ht; omega
    rw [take_getD _ _ _ _ ht', h t ht', xorBits_getD _ _ _ (by simp only [List.length_take]; omega) (by simp only [List.length_take]; omega),
      take_getD _ _ _ _ ht', take_getD _ _ _ _ ht']

end NasVerif.Proofs.BitLists

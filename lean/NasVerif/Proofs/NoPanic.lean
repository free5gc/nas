import NasVerif.Prelude.GoLib
import NasVerif.Proofs.Outcome
import NasVerif.Proofs.NoPanicAttr
/-!
# `NoPanic`: weakest-precondition rules for the `Outcome` monad

`simp only [np_simp]` turns `NoPanic (do …)` into the bounds its checked primitives need, for `omega`; `np_bind` steps through a
loop body. The value of a primitive is substituted in the continuation (its length stays in sight); the result of any other call
stays behind `∀ a, x = ok a → …`, or behind `(∃ a, x = ok a) → …` when what follows does not mention it. A lemma `NoPanic (g …)`
or `NoPanic (g …) ↔ …` joins the set by `@[np_simp]`.
-/
namespace NasVerif

def NoPanic {α} (o : Outcome α) : Prop := o ≠ .panic

@[np_simp] theorem np_ok {α} (a : α) : NoPanic (Outcome.ok a) := by intro h; cases h
@[np_simp] theorem np_err {α} (e : Err) : NoPanic (Outcome.err e : Outcome α) := by intro h; cases h
@[np_simp] theorem np_panic_iff {α} : NoPanic (Outcome.panic : Outcome α) ↔ False := iff_false_intro fun h => h rfl

@[np_simp] theorem np_idx_bind {β} {bs : Bytes} {i : Nat} {f : UInt8 → Outcome β} :
    NoPanic (idx bs i >>= f) ↔ i < bs.length ∧ NoPanic (f (bs.getD i 0)) := by
  unfold idx; split <;> simp [NoPanic, *]
@[np_simp] theorem np_slice_bind {β} {bs : Bytes} {lo hi : Nat} {f : Bytes → Outcome β} :
    NoPanic (slice bs lo hi >>= f) ↔ (lo ≤ hi ∧ hi ≤ bs.length) ∧ NoPanic (f ((bs.take hi).drop lo)) := by
  unfold slice; split <;> simp [NoPanic, *]
@[np_simp] theorem np_sliceFrom_bind {β} {bs : Bytes} {lo : Nat} {f : Bytes → Outcome β} :
    NoPanic (sliceFrom bs lo >>= f) ↔ lo ≤ bs.length ∧ NoPanic (f (bs.drop lo)) := by
  unfold sliceFrom; split <;> simp [NoPanic, *]

@[np_simp] theorem np_idx_iff {bs : Bytes} {i : Nat} : NoPanic (idx bs i) ↔ i < bs.length := by
  unfold idx; split <;> simp [NoPanic, *]
@[np_simp] theorem np_slice_iff {bs : Bytes} {lo hi : Nat} : NoPanic (slice bs lo hi) ↔ lo ≤ hi ∧ hi ≤ bs.length := by
  unfold slice; split <;> simp [NoPanic, *]
@[np_simp] theorem np_sliceFrom_iff {bs : Bytes} {lo : Nat} : NoPanic (sliceFrom bs lo) ↔ lo ≤ bs.length := by
  unfold sliceFrom; split <;> simp [NoPanic, *]

theorem Outcome.Post.noPanic {α} {o : Outcome α} {P : α → Prop} (h : o.Post P) : NoPanic o := h.ne_panic

theorem NoPanic.post {α} {o : Outcome α} (h : NoPanic o) : o.Post fun _ => True := by
  cases o with
  | panic => exact h rfl
  | _ => trivial

theorem isErr_of_noPanic {α} {o : Outcome α} (h : NoPanic o) (hok : ∀ a, o ≠ .ok a) : o.isErr = true := by
  cases o with
  | ok a => exact absurd rfl (hok a)
  | err e => rfl
  | panic => exact absurd rfl h

@[np_simp] theorem np_ite_iff {α} {c : Prop} [Decidable c] {x y : Outcome α} :
    NoPanic (if c then x else y) ↔ (c → NoPanic x) ∧ (¬ c → NoPanic y) := by
  split <;> simp [*]

/- `low`: where `x` is a primitive its `_bind` rule must fire first, or the value it would have substituted stays behind `∀ a`. -/
@[np_simp low] theorem np_bind_iff {α β} {x : Outcome α} {f : α → Outcome β} :
    NoPanic (x >>= f) ↔ NoPanic x ∧ ∀ a, x = .ok a → NoPanic (f a) := by
  cases x <;> simp [NoPanic]

theorem np_bind {α β} {x : Outcome α} {f : α → Outcome β}
    (hx : NoPanic x) (hf : ∀ a, x = .ok a → NoPanic (f a)) : NoPanic (x >>= f) := np_bind_iff.mpr ⟨hx, hf⟩

@[np_simp] theorem forall_ok_imp {α} {x : Outcome α} {q : Prop} : (∀ a, x = .ok a → q) ↔ ((∃ a, x = .ok a) → q) :=
  ⟨fun h ⟨a, ha⟩ => h a ha, fun h a ha => h ⟨a, ha⟩⟩

/- `omega` does not know the constants `True` and `False`; these remove them. The length lemmas bring what the continuation of a
slice says about its result down to arithmetic. -/
attribute [np_simp] implies_true and_true true_and and_self imp_false false_imp_iff not_false_eq_true
  List.length_map List.length_drop List.length_take hexEnc_length Outcome.pure_eq

end NasVerif

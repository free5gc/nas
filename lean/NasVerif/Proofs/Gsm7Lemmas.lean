import NasVerif.Spec.Gsm7
import NasVerif.Proofs.Bits
/-!
# Lemmas for the network-name round trip (C17)

The packing loop keeps the invariant "the buffer, read little-endian, is below 2^(7i) and has ⌈7i/8⌉ octets", and each step adds
`c · 2^(7i)`: so the packed buffer is the base-128 number whose digits are the characters, and digit extraction gives them back.
-/
namespace NasVerif.Proofs.Gsm7
open NasVerif.Model.Conv17 NasVerif.Spec.Gsm7

theorem or_shl_toNat (last c : UInt8) (s : Nat) (hs7 : s ≤ 7) (hl : last.toNat < 2 ^ s) :
    (last ||| (c <<< UInt8.ofNat s)).toNat = last.toNat + (c.toNat % 2 ^ (8 - s)) * 2 ^ s := by
  have hs := UInt8.toNat_ofNat_of_lt' (show s < 256 by omega)
  have h256 : (2:Nat) ^ 8 = 2 ^ (8 - s) * 2 ^ s := by rw [← Nat.pow_add]; congr 1; omega
  rw [UInt8.toNat_or, UInt8.toNat_shiftLeft, hs, Nat.mod_eq_of_lt (show s < 8 by omega), Nat.shiftLeft_eq, h256,
    Nat.mul_mod_mul_right, Nat.or_comm, Bits.mul_two_pow_or _ _ _ hl, Nat.add_comm]

theorem shr_toNat (c : UInt8) (k : Nat) (hk : k < 8) : (c >>> UInt8.ofNat k).toNat = c.toNat / 2 ^ k := by
  rw [UInt8.toNat_shiftRight, UInt8.toNat_ofNat_of_lt' (show k < 256 by omega), Nat.mod_eq_of_lt hk, Nat.shiftRight_eq_div_pow]

theorem leValue_append (a : Bytes) (x : UInt8) : leValue (a ++ [x]) = leValue a + 256 ^ a.length * x.toNat := by
  induction a with
  | nil => simp [leValue]
  | cons b r ih =>
    simp only [List.cons_append, leValue, ih, List.length_cons, Nat.pow_succ', Nat.mul_add, Nat.mul_assoc, Nat.add_assoc]

theorem leValue_lt (a : Bytes) : leValue a < 256 ^ a.length := by
  induction a with
  | nil => simp [leValue]
  | cons b r ih =>
    have hb := b.toNat_lt
    have : 1 ≤ 256 ^ r.length := Nat.one_le_pow _ _ (by omega)
    simp only [leValue, List.length_cons, Nat.pow_succ]
    omega

/-- gluing the low part of a 7-bit character into the last octet and its high part into a new octet adds
`c · 2^s` at the position of the last octet -/
theorem glue (P Vi last c k1 k2 : Nat) (hk : k1 * k2 = 256) :
    Vi + P * (last + (c % k1) * k2) + (P * 256) * (c / k1) = (Vi + P * last) + (P * k2) * c := by
  have hc : c = k1 * (c / k1) + c % k1 := (Nat.div_add_mod c k1).symm
  generalize c / k1 = q at hc ⊢
  generalize c % k1 = r at hc ⊢
  subst hc
  rw [← hk]
  simp only [Nat.mul_add]
  ac_rfl

theorem glue_last (init : Bytes) (last c : UInt8) (s : Nat) (hs1 : 1 ≤ s) (hs7 : s ≤ 7) (hl : last.toNat < 2 ^ s) :
    leValue (init ++ [last ||| c <<< UInt8.ofNat s] ++ [c >>> UInt8.ofNat (8 - s)]) =
      leValue (init ++ [last]) + 256 ^ init.length * 2 ^ s * c.toNat := by
  have hk : 2 ^ (8 - s) * 2 ^ s = 256 := by rw [← Nat.pow_add, show 8 - s + s = 8 by omega]
  rw [leValue_append, leValue_append, leValue_append, or_shl_toNat _ c s hs7 hl, shr_toNat c (8 - s) (by omega),
    List.length_append, List.length_singleton, Nat.pow_succ]
  exact glue _ _ _ _ _ _ hk

/-- ⌈7i/8⌉ octets, said without division: `omega` is incomplete on the rounded-up quotient -/
def PInv (i : Nat) (buf : Bytes) : Prop := leValue buf < 2 ^ (7 * i) ∧ 7 * i ≤ 8 * buf.length ∧ 8 * buf.length < 7 * i + 8

theorem packStep_spec (buf : Bytes) (i : Nat) (c : UInt8) (hc : c.toNat < 128) (h : PInv i buf) :
    PInv (i + 1) (packStep buf i c) ∧ leValue (packStep buf i c) = leValue buf + 2 ^ (7 * i) * c.toNat := by
  obtain ⟨hV, hL⟩ := h
  -- the bound of the invariant follows from the value; value and octet count case by case
  suffices hs : leValue (packStep buf i c) = leValue buf + 2 ^ (7 * i) * c.toNat ∧
      7 * i + 7 ≤ 8 * (packStep buf i c).length ∧ 8 * (packStep buf i c).length < 7 * i + 15 by
    refine ⟨⟨?_, by omega⟩, hs.1⟩
    have := Nat.mul_le_mul_left (2 ^ (7 * i)) (show c.toNat ≤ 127 by omega)
    rw [hs.1, show 7 * (i + 1) = 7 * i + 7 by omega, Nat.pow_add]
    omega
  unfold packStep
  have hc7 : c &&& 0x7f = c :=
    UInt8.toNat_inj.mp ((Nat.and_two_pow_sub_one_eq_mod c.toNat 7).trans (Nat.mod_eq_of_lt hc))
  simp only [hc7]
  obtain ⟨k, s, hs8, hks, hs⟩ : ∃ k s, s < 8 ∧ 7 * i = 8 * k + s ∧ 7 * i % 8 = s := ⟨7 * i / 8, _, by omega, by omega, rfl⟩
  rw [hs]
  clear hs
  split
  · -- the character starts a new octet
    rw [leValue_append, show (256 : Nat) = 2 ^ 8 from rfl, ← Nat.pow_mul, show 8 * buf.length = 7 * i by omega]
    exact ⟨rfl, by simp; omega⟩
  · -- the low bits go into the last octet `last` (which has `s` bits in use), the high bits (if any) into a new one
    obtain ⟨init, last, rfl⟩ : ∃ init last, buf = init ++ [last] := by
      rcases List.eq_nil_or_concat buf with rfl | ⟨l, b, rfl⟩
      · simp at hL; omega
      · exact ⟨l, b, List.concat_eq_append⟩
    simp only [List.dropLast_concat, List.getLastD_concat, List.length_append, List.length_singleton] at hL ⊢
    have hP : 2 ^ (7 * i) = 256 ^ init.length * 2 ^ s := by
      rw [show (256 : Nat) = 2 ^ 8 from rfl, ← Nat.pow_mul, ← Nat.pow_add]; congr 1; omega
    have hglue := glue_last init last c s (by omega) (by omega) (by
      rw [leValue_append, hP] at hV; exact Nat.lt_of_mul_lt_mul_left (a := 256 ^ init.length) (by omega))
    rw [← hP] at hglue
    split
    · exact ⟨hglue, by simp; omega⟩
    · -- shift 1: the whole character fits, 2·c < 256
      obtain rfl : s = 1 := by omega
      rw [leValue_append _ (c >>> _), shr_toNat c (8 - 1) (by omega), Nat.div_eq_of_lt hc, Nat.mul_zero, Nat.add_zero] at hglue
      exact ⟨hglue, by simp; omega⟩

theorem packLoop_spec (cs : List UInt8) : ∀ (i : Nat) (buf : Bytes), (∀ c ∈ cs, c.toNat < 128) → PInv i buf →
    PInv (i + cs.length) (packLoop i cs buf) ∧ leValue (packLoop i cs buf) = leValue buf + 2 ^ (7 * i) * digits128 cs := by
  induction cs with
  | nil => intro i buf _ h; simpa [packLoop, digits128] using h
  | cons c cs ih =>
    intro i buf hcs h
    obtain ⟨hc, hcs⟩ := List.forall_mem_cons.mp hcs
    obtain ⟨h1, hv1⟩ := packStep_spec buf i c hc h
    obtain ⟨h2, hv2⟩ := ih (i + 1) (packStep buf i c) hcs h1
    simp only [packLoop, List.length_cons, digits128]
    refine ⟨by rw [show i + (cs.length + 1) = i + 1 + cs.length by omega]; exact h2, ?_⟩
    rw [hv2, hv1, show 7 * (i + 1) = 7 * i + 7 by omega, Nat.pow_add, Nat.mul_add, ← Nat.mul_assoc, Nat.mul_assoc (2 ^ (7 * i)) (2 ^ 7) _]
    simp [Nat.add_assoc]

theorem digit_extract (cs : List UInt8) (hcs : ∀ c ∈ cs, c.toNat < 128) :
    ∀ k (hk : k < cs.length), digits128 cs / 2 ^ (7 * k) % 128 = (cs[k]).toNat := by
  induction cs with
  | nil => intro k hk; simp at hk
  | cons c cs ih =>
    intro k hk
    obtain ⟨hc, hcs⟩ := List.forall_mem_cons.mp hcs
    cases k with
    | zero =>
      simp only [digits128, Nat.mul_zero, Nat.pow_zero, Nat.div_one, List.getElem_cons_zero]
      omega
    | succ k =>
      have := ih hcs k (by simpa using hk)
      simp only [digits128, List.getElem_cons_succ]
      rw [show 7 * (k + 1) = 7 + 7 * k by omega, Nat.pow_add, ← Nat.div_div_eq_div_mul]
      rw [show (c.toNat + 128 * digits128 cs) / 2 ^ 7 = digits128 cs by
        rw [show (2:Nat) ^ 7 = 128 from rfl]; omega]
      exact this

end NasVerif.Proofs.Gsm7

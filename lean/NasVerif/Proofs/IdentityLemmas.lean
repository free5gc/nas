import NasVerif.Model.Convert
import NasVerif.Spec.Identity
import NasVerif.Proofs.Outcome
import NasVerif.Proofs.Bits
/-!
# Nibbles, digits and hexadecimal text (for C12)

The specification speaks of nibbles and digits as natural numbers (`oct hi lo`, `digitChar d`), the library of masks and
shifts on octets. The table between the two is one lemma per operation, checked on all pairs of nibbles; the
bounds are hypotheses, so `simp (disch := omega) [oct_and_0f, …]` turns the library's bit operations into nibbles.
-/
namespace NasVerif.Proofs.Identity
open NasVerif.Model.Convert NasVerif.Spec.Identity

theorem oct_and_0f : ∀ hi, hi < 16 → ∀ lo, lo < 16 → oct hi lo &&& 0x0f = UInt8.ofNat lo := by decide +kernel
theorem oct_and_f0 : ∀ hi, hi < 16 → ∀ lo, lo < 16 → oct hi lo &&& 0xf0 = oct hi 0 := by decide +kernel
theorem oct_hi4 : ∀ hi, hi < 16 → ∀ lo, lo < 16 → (oct hi lo &&& 0xf0) >>> 4 = UInt8.ofNat hi := by decide +kernel
theorem oct_shr4 : ∀ hi, hi < 16 → ∀ lo, lo < 16 → oct hi lo >>> 4 = UInt8.ofNat hi := by decide +kernel
theorem rotl4_oct : ∀ hi, hi < 16 → ∀ lo, lo < 16 → rotl4 (oct hi lo) = oct lo hi := by decide +kernel
theorem ofNat_shl4_or : ∀ hi, hi < 16 → ∀ lo, lo < 16 → (UInt8.ofNat hi <<< 4) ||| UInt8.ofNat lo = oct hi lo := by
  decide +kernel
theorem ofNat_shl4 : ∀ hi, hi < 16 → UInt8.ofNat hi <<< 4 = oct hi 0 := by decide
theorem hexChar_ofNat : ∀ hi, hi < 16 → hexChar (UInt8.ofNat hi) = hexDigitChar hi := by decide
theorem oct_and_07 : ∀ hi, hi < 16 → ∀ lo, lo < 16 → oct hi lo &&& 0x07 = UInt8.ofNat (lo % 8) := by decide +kernel
theorem oct_bit4 : ∀ hi, hi < 16 → ∀ lo, lo < 8 → (oct hi (8 + lo) &&& 0x08) >>> 3 = 1 ∧ (oct hi lo &&& 0x08) >>> 3 = 0 := by
  decide +kernel
/-- the two setter calls by which `GutiToNasWithError` fills an octet with two digits -/
theorem setBits_oct : ∀ hi, hi < 16 → ∀ lo, lo < 16 →
    setBits (setBits 0 240 (UInt8.ofNat lo) 15 0) 15 (UInt8.ofNat hi) 15 4 = oct hi lo := by decide +kernel

theorem oct_add (h a : Nat) : oct h 0 + UInt8.ofNat a = oct h a := by simp only [oct, Nat.add_zero, ← UInt8.ofNat_add]

theorem oct_div_mod (o : UInt8) : oct (o.toNat / 16) (o.toNat % 16) = o := by rw [oct, Nat.div_add_mod']; simp

theorem oct_cases (o : UInt8) : ∃ hi lo, hi < 16 ∧ lo < 16 ∧ o = oct hi lo :=
  ⟨_, _, by have := o.toNat_lt; omega, by omega, (oct_div_mod o).symm⟩

theorem hexDigitChar_digit : ∀ d, d < 10 → hexDigitChar d = digitChar d := by decide
theorem digitChar_ne_f : ∀ d, d < 10 → digitChar d ≠ charF := by decide
theorem atoi1_digitChar : ∀ d, d < 10 → atoi1 (digitChar d) = some (UInt8.ofNat d) := by decide

theorem hexDigitChar_15 : hexDigitChar 15 = charF := rfl
theorem hexNib_hexDigitChar : ∀ n, n < 16 → hexNib (hexDigitChar n) = some (UInt8.ofNat n) := by decide

theorem hexEnc_oct {hi lo : Nat} (h1 : hi < 16) (h2 : lo < 16) (r : Bytes) :
    hexEnc (oct hi lo :: r) = hexDigitChar hi :: hexDigitChar lo :: hexEnc r := by
  rw [hexEnc, oct_shr4 _ h1 _ h2, oct_and_0f _ h1 _ h2, hexChar_ofNat _ h1, hexChar_ofNat _ h2]

theorem hexEnc_eq_hexText (bs : Bytes) : hexEnc bs = hexText bs := by
  induction bs with
  | nil => rfl
  | cons b r ih =>
    have := b.toNat_lt
    rw [hexText, ← ih, ← hexEnc_oct (by omega) (by omega), oct_div_mod]

theorem hexDec_hexText (bs : Bytes) : hexDec (hexText bs) = some bs := by
  rw [← hexEnc_eq_hexText]
  induction bs with
  | nil => rfl
  | cons b r ih =>
    obtain ⟨hi, lo, h1, h2, rfl⟩ := oct_cases b
    simp (disch := omega) [hexEnc_oct, hexDec, hexNib_hexDigitChar, ofNat_shl4_or, ih]

/-! The AMF identifier is region (8 bits), set (10 bits), pointer (6 bits) in three octets `a0 a1 a2`, so octet `a2` is shared:
its two high bits, `(a2.toUInt16 &&& 0xc0) >>> 6` in the library, are the two low bits of the set. -/

/-- the ten-bit set identifier as `AmfIdToNasWithError` computes it from octets 2 and 3 of the AMF identifier -/
def amfSet (a1 a2 : UInt8) : UInt16 := (a1.toUInt16 <<< 2) + ((a2.toUInt16 &&& 0x00c0) >>> 6)

theorem hi2_toNat : ∀ a : UInt8, ((a.toUInt16 &&& 0x00c0) >>> 6).toNat = a.toNat / 64 := Bits.forall_byte (by decide +kernel)

/-- the doubled mask is the caller's `ptr = a &&& 0x3f` under the mask that `AmfIdToModels` applies to its argument -/
theorem hi2_shl6_add : ∀ a : UInt8, (((a.toUInt16 &&& 0x00c0) >>> 6).toUInt8 <<< 6) + ((a &&& 0x3f) &&& 0x3f) = a :=
  Bits.forall_byte (by decide +kernel)

/-- what `SetAMFSetID` writes into the shared octet and `SetAMFPointer` then keeps of it is a shift -/
theorem setBits6_and_192 : ∀ a : UInt8, setBits 0 63 a 255 6 &&& (192 : UInt8) = a <<< (6 : UInt8) :=
  Bits.forall_byte (by decide +kernel)

theorem and_3f_toNat (a : UInt8) : (a &&& 0x3f).toNat = a.toNat % 64 := by
  rw [UInt8.toNat_and]; exact Nat.and_two_pow_sub_one_eq_mod a.toNat 6

theorem amfSet_toNat (a1 a2 : UInt8) : (amfSet a1 a2).toNat = a1.toNat * 4 + a2.toNat / 64 := by
  have h1 := a1.toNat_lt
  have h2 := a2.toNat_lt
  simp only [amfSet, UInt16.toNat_add, UInt16.toNat_shiftLeft, UInt8.toNat_toUInt16, hi2_toNat, Nat.shiftLeft_eq]
  -- the shift multiplies by `2 ^ 2`; with `a1 < 256` and `a2 / 64 < 4` neither reduction modulo `2 ^ 16` takes anything off
  rw [show UInt16.toNat 2 % 16 = 2 from rfl]
  omega

theorem amfSet_hi (a1 a2 : UInt8) : (amfSet a1 a2 >>> 2).toUInt8 &&& 0xff = a1 := by
  have h1 := a1.toNat_lt
  have h2 := a2.toNat_lt
  -- the mask `0xff` of `AmfIdToModels` is `-1` in `UInt8`
  refine UInt8.and_neg_one.trans (UInt8.toNat_inj.mp ?_)
  rw [UInt16.toNat_toUInt8, UInt16.toNat_shiftRight, amfSet_toNat, Nat.shiftRight_eq_div_pow, show UInt16.toNat 2 % 16 = 2 from rfl]
  omega

theorem amfSet_and_3 (a1 a2 : UInt8) : amfSet a1 a2 &&& (3 : UInt16) = (a2.toUInt16 &&& 0x00c0) >>> 6 := by
  have h2 := a2.toNat_lt
  apply UInt16.toNat_inj.mp
  rw [UInt16.toNat_and, show (3 : UInt16).toNat = 2 ^ 2 - 1 from rfl, Nat.and_two_pow_sub_one_eq_mod, amfSet_toNat, hi2_toNat]
  omega

theorem amfSet_lo (a1 a2 : UInt8) : ((amfSet a1 a2 &&& 3).toUInt8 <<< 6) + ((a2 &&& 0x3f) &&& 0x3f) = a2 := by
  rw [amfSet_and_3, hi2_shl6_add]

theorem amfSet_ofNat (s p : Nat) (hs : s < 1024) (hp : p < 64) :
    amfSet (.ofNat (s / 4)) (.ofNat (s % 4 * 64 + p)) = .ofNat s ∧ UInt8.ofNat (s % 4 * 64 + p) &&& 0x3f = .ofNat p := by
  have e1 := UInt8.toNat_ofNat_of_lt' (show s / 4 < 256 by omega)
  have e2 := UInt8.toNat_ofNat_of_lt' (show s % 4 * 64 + p < 256 by omega)
  constructor
  · apply UInt16.toNat_inj.mp
    rw [amfSet_toNat, e1, e2, UInt16.toNat_ofNat']; omega
  · apply UInt8.toNat_inj.mp
    rw [and_3f_toNat, e2, UInt8.toNat_ofNat']; omega

theorem amfIdToNas_hexText (a0 a1 a2 : UInt8) : amfIdToNas (hexText [a0, a1, a2]) = .ok (a0, amfSet a1 a2, a2 &&& 0x3f) := by
  simp [amfIdToNas, hexDec_hexText, amfSet]

theorem amfIdToModels_amfSet (a0 a1 a2 : UInt8) : amfIdToModels a0 (amfSet a1 a2) (a2 &&& 0x3f) = hexText [a0, a1, a2] := by
  rw [amfIdToModels, amfSet_hi, amfSet_lo, hexEnc_eq_hexText]

/-- the same re-assembly as the GUTI5G setters of `GutiToNasWithError` write it (`SetAMFPointer` masks the pointer again) -/
theorem amfSet_lo_setBits (a1 a2 : UInt8) :
    (setBits 0 63 (amfSet a1 a2 &&& 3).toUInt8 255 6 &&& 192) + ((a2 &&& 0x3f) &&& 63) = a2 := by
  rw [setBits6_and_192, amfSet_lo]

theorem guti_o0 : setBits (setBits (setBits 0 247 0 1 3) 15 15 15 4) 248 2 7 0 = 0xf2 := rfl

theorem chop1_append (x : Bytes) (c : UInt8) (y : Bytes) : chop1 (x ++ c :: y) = .ok (x ++ (c :: y).dropLast) := by
  rw [chop1_eq (by simp), List.dropLast_append_of_ne_nil (by simp)]

theorem hexEnc_rotl4_bcdPack (ds : List Nat) (hd : ∀ d ∈ ds, d < 10) :
    hexEnc ((bcdPack ds).map rotl4) = digitsText ds ++ (if ds.length % 2 = 1 then [charF] else []) := by
  fun_induction bcdPack ds with
  | case1 => rfl
  | case2 a =>
    simp at hd
    simp (disch := omega) [rotl4_oct, hexEnc_oct, hexEnc.eq_1, digitsText, hexDigitChar_digit, hexDigitChar_15]
  | case3 a b r ih =>
    have e : (r.length + 1 + 1) % 2 = r.length % 2 := by omega
    have ha := hd a (by simp)
    have hb := hd b (by simp)
    simp (disch := omega) [rotl4_oct, hexEnc_oct, ih fun d h => hd d (by simp [h]), digitsText, hexDigitChar_digit, e]

/-- the loop of `PeiToStringWithError` moves every nibble one place up -/
theorem peiDigits_hex (h : Nat) (hh : h < 16) (bs : Bytes) :
    hexEnc (peiDigits (oct h 0) bs) = hexDigitChar h :: (hexEnc (bs.map rotl4) ++ [hexDigitChar 0]) := by
  induction bs generalizing h with
  | nil => simp (disch := omega) [peiDigits, hexEnc_oct, hexEnc.eq_1]
  | cons o r ih =>
    obtain ⟨hi, lo, h1, h2, rfl⟩ := oct_cases o
    simp (disch := omega) [peiDigits, oct_and_0f, oct_and_f0, oct_add, rotl4_oct, hexEnc_oct, ih hi h1]

theorem pei_digits (typ d1 : Nat) (rest : List Nat) (ht : typ < 8) (hd : ∀ d ∈ d1 :: rest, d < 10) :
    peiDigitText (peiOctets typ d1 rest) = .ok (digitsText (d1 :: rest)) := by
  have hd1 : d1 < 10 := hd d1 (by simp)
  have hx : hexEnc (peiDigits (oct d1 0) (bcdPack rest)) =
      digitsText (d1 :: rest) ++ ((if rest.length % 2 = 1 then [charF] else []) ++ [hexDigitChar 0]) := by
    rw [peiDigits_hex d1 (by omega), hexEnc_rotl4_bcdPack rest fun d h => hd d (by simp [h]), hexDigitChar_digit d1 hd1]
    simp [digitsText]
  obtain ⟨f1, f0⟩ := oct_bit4 d1 (by omega) typ ht
  unfold peiDigitText peiOctets
  by_cases hp : rest.length % 2 = 0
  · rw [if_neg (by omega)] at hx
    simp (disch := omega) [hp, oct_and_f0, f1, hx, chop1_append]
  · rw [if_pos (by omega)] at hx
    simp (disch := omega) [hp, oct_and_f0, f0, hx, chop1_append]

theorem mnc3_lt {p : Plmn} (hv : p.Valid) : p.mnc3.getD 15 < 16 := by
  cases hm : p.mnc3 with
  | none => simp
  | some d => obtain ⟨-, -, -, -, -, h6⟩ := hv; have := h6 d hm; simp; omega

theorem suci_mcc (p : Plmn) (hv : p.Valid) (x : Nat) (hx : x < 16) :
    mccText (oct p.mcc2 p.mcc1) (oct x p.mcc3) = .ok p.mccText := by
  obtain ⟨h1, h2, h3, -⟩ := hv
  simp (disch := omega) [mccText, rotl4_oct, oct_and_0f, ofNat_shl4, hexEnc_oct, hexDigitChar_digit, Plmn.mccText, hexEnc.eq_1]

/-- MNC digit 3 as the library prints it: the filler 15 prints as `f`, which the library cuts off, a digit prints as itself.
`x` is the text produced so far (`[]` in `suci_mnc`, the MCC in `C12.plmn_to_text`); the left side is what `simp` leaves of `mncText`
and of `plmnIDToString` there, where both conclude by `simpa … using mnc_text …`. -/
theorem mnc_text (p : Plmn) (h6 : ∀ d, p.mnc3 = some d → d < 10) (x : Bytes) :
    (if hexDigitChar (p.mnc3.getD 15) = charF then Outcome.ok (x ++ [digitChar p.mnc1, digitChar p.mnc2])
      else .ok (x ++ [digitChar p.mnc1, digitChar p.mnc2, hexDigitChar (p.mnc3.getD 15)])) = .ok (x ++ p.mncText) := by
  unfold Plmn.mncText
  cases hm : p.mnc3 with
  | none => simp [hexDigitChar_15]
  | some d => have := h6 d hm; simp (disch := omega) [hexDigitChar_digit, digitChar_ne_f]

theorem suci_mnc (p : Plmn) (hv : p.Valid) :
    mncText (oct (p.mnc3.getD 15) p.mcc3) (oct p.mnc2 p.mnc1) = .ok p.mncText := by
  have hn := mnc3_lt hv
  obtain ⟨-, -, h3, h4, h5, h6⟩ := hv
  simpa (disch := omega) [mncText, rotl4_oct, oct_hi4, ofNat_shl4, hexEnc_oct, hexDigitChar_digit, hexEnc.eq_1]
    using mnc_text p h6 []

/-- the routing indicator of Figure 9.11.3.4.3, octets 5 and 6 of the contents: one to four digits fill two octets, `[a] ↦ fa ff`,
`[a, b] ↦ ba ff`, `[a, b, c] ↦ ba fc`, `[a, b, c, d] ↦ ba dc`; `routingText` reads the nibble-swapped hexadecimal text up to the
first `f` -/
theorem suci_ri (ri : List Nat) (hl : 1 ≤ ri.length ∧ ri.length ≤ 4) (hd : ∀ d ∈ ri, d < 10) :
    ∃ b4 b5, bcdPack ri ++ List.replicate (2 - (ri.length + 1) / 2) 0xff = [b4, b5] ∧ routingText b4 b5 = .ok (digitsText ri) := by
  have ff : (0xff : UInt8) = oct 15 15 := rfl
  match ri, hl, hd with
  | [], hl, _ | _ :: _ :: _ :: _ :: _ :: _, hl, _ => simp at hl
  | [a], _, hd | [a, b], _, hd | [a, b, c], _, hd | [a, b, c, d], _, hd =>
    simp only [List.mem_cons, List.not_mem_nil, or_false, forall_eq_or_imp, forall_eq] at hd
    refine ⟨_, _, by simp only [bcdPack, List.length_cons, List.length_nil]; rfl, ?_⟩
    simp (disch := omega) [routingText, ff, rotl4_oct, hexEnc_oct, hexEnc.eq_1, indexByte, hexDigitChar_15, hexDigitChar_digit,
      digitChar_ne_f, digitsText]

theorem suci_so_null (ds : List Nat) (hd : ∀ d ∈ ds, d < 10) (hne : ds ≠ []) :
    schemeOutputText 0 (bcdPack ds) = .ok (digitsText ds) := by
  rw [schemeOutputText, if_pos (by decide), hexEnc_rotl4_bcdPack ds hd]
  by_cases hp : ds.length % 2 = 1
  · simp [hp, lastByte_eq, chop1_append]
  · have hne' : digitsText ds ≠ [] := by simpa [digitsText] using hne
    have : (digitsText ds).getLast hne' ≠ charF := by
      simp only [digitsText, List.getLast_map]
      exact digitChar_ne_f _ (hd _ (List.getLast_mem _))
    simp [hp, lastByte_eq hne', this]

theorem scheme_hex : ∀ s, s < 16 → (fmtHex8 (UInt8.ofNat s) = ascii "0" ↔ s = 0) ∧ fmtHex8 (UInt8.ofNat s) = [hexDigitChar s] := by
  decide

theorem suci_so_scheme (s : Nat) (hs : s < 16) (h0 : s ≠ 0) (out : Bytes) :
    schemeOutputText (UInt8.ofNat s) out = .ok (hexText out) := by
  rw [schemeOutputText, if_neg (fun h => h0 ((scheme_hex s hs).1.mp h)), hexEnc_eq_hexText]; rfl

theorem atoiAt_ok {s : Bytes} {i : Nat} {d : UInt8} (h : atoiAt s i = .ok d) : atoi1 (s.getD i 0) = some d := by
  obtain ⟨c, hc, h⟩ := Outcome.bind_eq_ok.mp h
  rw [← idx_eq hc]
  split at h
  · cases h; assumption
  · cases h

end NasVerif.Proofs.Identity

import NasVerif.Model.Security
import NasVerif.Proofs.Bits
import NasVerif.Proofs.BitLists
/-!
# The byte loops of NEA1 / NEA3 in closed form

A Hoare rule for the model's `forRange`, a sweep invariant ("the octets written so far are input XOR keystream, the rest is
still zero"), and one proof of it for the loop both ciphers run, over any list of keystream words and for every bit length.
At LENGTH = 8 · octets (the API path) the result is payload XOR a keystream that only grows with the length; the tail mask of
NEA1 keeps the first LENGTH keystream bits, so it touches no octet that is used.
-/
namespace NasVerif.Proofs.EncLoops
open NasVerif NasVerif.Model NasVerif.Model.Security NasVerif.Proofs.BitLists

def Sweep (p : Bytes) (kb : Nat → UInt8) (m : Nat) (obs : Bytes) : Prop :=
  obs.length = p.length ∧ ∀ idx, idx < p.length → obs.getD idx 0 = if idx < m then p.getD idx 0 ^^^ kb idx else 0

def wordsByte (ws : List W32) (idx : Nat) : UInt8 := ksByte (ws.getD (idx / 4) 0) (idx % 4)

/-! `snowIv`, `nea1Ks`, `zucStream` and `nea3Tail` give names to `let`-bound pieces of `NEA1` / `NEA3` that the model leaves
unnamed. `unfold NEA1; simp only []` puts their bodies into the goal; `rw [show <body> = nea1Ks … from rfl]` folds a body back
into its name, so that the lemmas stated about the name apply. -/

def snowIv (count bearer direction : W32) : List W32 :=
  let w0 := (bearer <<< 27) ||| (direction <<< 26)
  [w0, count, w0, count]

def nea1Ks (ck : Bytes) (count bearer direction : W32) (length : Nat) : List W32 :=
  let l := (length + 31) / 32
  let r := length % 32
  let ks := Snow3g.GetKeyStream (keyWords ck) (snowIv count bearer direction) l
  if r ≠ 0 then ks.set (l - 1) (ks.getD (l - 1) 0 &&& ~~~ ((1#32 <<< (32 - r)) - 1#32)) else ks

def zucStream (ck : Bytes) (count : W32) (bearer direction : UInt8) (l : Nat) : List W32 :=
  let iv8 := put32 count ++ [(bearer <<< 3) ||| (direction <<< 2), 0, 0, 0]
  Zuc.Zuc (toBV8 ck) (toBV8 (iv8 ++ iv8)) l

/-- what `NEA3` does after its loop -/
def nea3Tail (length : Nat) (obs : Bytes) : Bytes :=
  let obs := if length % 8 ≠ 0 then obs.set (length / 8) (obs.getD (length / 8) 0 &&& (0xff <<< UInt8.ofNat (8 - length % 8))) else obs
  obs.take (length / 8 + 1) ++ List.replicate (obs.length - (length / 8 + 1)) 0

/-- the `n` keystream octets used when `n` octets are ciphered, for a generator `ws` of keystream words -/
def ksOctets (ws : Nat → List W32) (n : Nat) : Bytes := (List.range n).map (wordsByte (ws ((n * 8 + 31) / 32)))

def KsFamily (ks : Nat → Bytes) : Prop := (∀ n, (ks n).length = n) ∧ ∀ n m, m ≤ n → (ks n).take m = ks m

def kb1 (ck : Bytes) (count bearer direction : W32) (n : Nat) : Nat → UInt8 :=
  wordsByte (Snow3g.GetKeyStream (keyWords ck) (snowIv count bearer direction) ((n * 8 + 31) / 32))
def kb3 (ck : Bytes) (count : W32) (bearer direction : UInt8) (n : Nat) : Nat → UInt8 :=
  wordsByte (zucStream ck count bearer direction ((n * 8 + 31) / 32))

def ks1 (ck : Bytes) (count bearer direction : W32) : Nat → Bytes :=
  ksOctets (Snow3g.GetKeyStream (keyWords ck) (snowIv count bearer direction))
def ks3 (ck : Bytes) (count : W32) (bearer direction : UInt8) : Nat → Bytes := ksOctets (zucStream ck count bearer direction)

theorem one_shl_sub_one (w n : Nat) (h : n < w) : (1#w <<< n) - 1#w = Bits.lowMask w n := by
  apply BitVec.eq_of_toNat_eq
  have hp : 2 ^ n < 2 ^ w := Nat.pow_lt_pow_right (by omega) h
  have hp1 : 1 ≤ 2 ^ n := Nat.one_le_two_pow
  rw [Bits.lowMask, BitVec.toNat_sub, BitVec.toNat_shiftLeft, BitVec.toNat_ofNat, BitVec.toNat_ofNat, Nat.shiftLeft_eq,
    Nat.mod_eq_of_lt (show 1 < 2 ^ w by omega), Nat.one_mul, Nat.mod_eq_of_lt hp, Nat.mod_eq_of_lt (show 2 ^ n - 1 < 2 ^ w by omega)]
  generalize 2 ^ n = T at *
  generalize 2 ^ w = W at *
  rw [show W - 1 + T = W + (T - 1) by omega, Nat.add_mod_left, Nat.mod_eq_of_lt (by omega)]

theorem forRange_inv {α} (P : Nat → α → Prop) (f : Nat → α → Outcome α) (n i : Nat) (a : α) (h0 : P i a)
    (hstep : ∀ k a, i ≤ k → k < i + n → P k a → ∃ a', f k a = .ok a' ∧ P (k + 1) a') :
    ∃ a', forRange n i f a = .ok a' ∧ P (i + n) a' := by
  induction n generalizing i a with
  | zero => exact ⟨a, rfl, h0⟩
  | succ m ih =>
    obtain ⟨a1, h1, p1⟩ := hstep i a (Nat.le_refl _) (by omega) h0
    obtain ⟨a2, h2, p2⟩ := ih (i + 1) a1 p1 (fun k a hk hk2 hp => hstep k a (by omega) (by omega) hp)
    refine ⟨a2, ?_, by rw [show i + (m + 1) = i + 1 + m by omega]; exact p2⟩
    simp only [forRange, h1, h2]

theorem forRange_inv0 {α} (P : Nat → α → Prop) (f : Nat → α → Outcome α) (n : Nat) (a : α) (h0 : P 0 a)
    (hstep : ∀ k a, k < n → P k a → ∃ a', f k a = .ok a' ∧ P (k + 1) a') : ∃ a', forRange n 0 f a = .ok a' ∧ P n a' := by
  simpa using forRange_inv P f n 0 a h0 fun k a _ hk => hstep k a (by omega)

theorem forRange_ok' {α} (f : Nat → α → Outcome α) (n i : Nat) (a : α)
    (hstep : ∀ k a, i ≤ k → k < i + n → ∃ a', f k a = .ok a') : forRange n i f a ≠ .panic ∧ ∀ e, forRange n i f a ≠ .err e := by
  obtain ⟨a', h, _⟩ := forRange_inv (fun _ _ => True) f n i a trivial
    (fun k a hk hk2 _ => by obtain ⟨a', h⟩ := hstep k a hk hk2; exact ⟨a', h, trivial⟩)
  rw [h]
  exact ⟨nofun, fun _ => nofun⟩

theorem Sweep.cast {p : Bytes} {kb : Nat → UInt8} {m m' : Nat} {obs : Bytes} (h : Sweep p kb m obs) (e : m = m') :
    Sweep p kb m' obs := e ▸ h

theorem sweep_step (p : Bytes) (kb : Nat → UInt8) (m : Nat) (obs : Bytes) (h : Sweep p kb m obs) (hm : m < p.length) (b : UInt8)
    (hb : b = kb m) : ∃ obs', xorAt p m b obs = .ok obs' ∧ Sweep p kb (m + 1) obs' := by
  obtain ⟨hl, hv⟩ := h
  refine ⟨obs.set m (p.getD m 0 ^^^ b), by simp [xorAt, hm, hl], by simp [hl], ?_⟩
  intro idx hidx
  by_cases he : idx = m
  · subst he
    rw [getD_set_eq _ _ _ _ (by omega), if_pos (by omega), hb]
  · rw [getD_set_ne _ _ _ _ _ (Ne.symm he), hv idx hidx]
    by_cases h1 : idx < m
    · rw [if_pos h1, if_pos (by omega)]
    · rw [if_neg h1, if_neg (by omega)]

theorem sweep_zero (p : Bytes) (kb : Nat → UInt8) : Sweep p kb 0 (List.replicate p.length 0) :=
  ⟨by simp, fun idx hidx => by simp [List.getD_eq_getElem?_getD, hidx]⟩

theorem sweep_full (p : Bytes) (kb : Nat → UInt8) (m : Nat) (obs : Bytes) (h : Sweep p kb m obs) (hm : p.length ≤ m) :
    obs = Spec.AES.xorB p ((List.range p.length).map kb) := by
  refine ext_getD _ _ 0 (by simp [Spec.AES.xorB, h.1]) fun i hi => ?_
  rw [h.1] at hi
  rw [h.2 i hi, if_pos (by omega)]
  simp [Spec.AES.xorB, List.getD_eq_getElem?_getD, hi]

theorem wordsByte_at (ws : List W32) (i j : Nat) (hj : j < 4) : wordsByte ws (4 * i + j) = ksByte (ws.getD i 0) j := by
  unfold wordsByte; rw [show (4 * i + j) / 4 = i by omega, show (4 * i + j) % 4 = j by omega]

/-- `c ≤ 4` octets of word `i`; `f` is whatever the code runs, as long as on `j < c` it is the guarded XOR -/
theorem sweep_word (p : Bytes) (ws : List W32) (nb i c : Nat) (hnb : nb ≤ p.length) (hc : c ≤ 4) (f : Nat → Bytes → Outcome Bytes)
    (hf : ∀ j obs, j < c → f j obs = if 4 * i + j < nb then xorAt p (4 * i + j) (ksByte (ws.getD i 0) j) obs else .ok obs)
    (obs0 : Bytes) (h0 : Sweep p (wordsByte ws) (min (4 * i) nb) obs0) :
    ∃ obs1, forRange c 0 f obs0 = .ok obs1 ∧ Sweep p (wordsByte ws) (min (4 * i + c) nb) obs1 := by
  refine forRange_inv0 (fun j obs => Sweep p (wordsByte ws) (min (4 * i + j) nb) obs) f c obs0 h0 fun j obs hj hs => ?_
  rw [hf j obs hj]
  by_cases hlt : 4 * i + j < nb
  · rw [if_pos hlt]
    obtain ⟨obs3, h3, s3⟩ := sweep_step p _ (4 * i + j) obs (hs.cast (by omega)) (by omega) _ (wordsByte_at ws i j (by omega)).symm
    exact ⟨obs3, h3, s3.cast (by omega)⟩
  · rw [if_neg hlt]
    exact ⟨obs, rfl, hs.cast (by omega)⟩

theorem sweep_words (p : Bytes) (ws : List W32) (nb l : Nat) (hnb : nb ≤ p.length) (g : Nat → Nat → Bytes → Outcome Bytes)
    (hg : ∀ i j obs, i < l → j < 4 → g i j obs = if 4 * i + j < nb then xorAt p (4 * i + j) (ksByte (ws.getD i 0) j) obs else .ok obs) :
    ∃ obs, forRange l 0 (fun i obs => forRange 4 0 (g i) obs) (List.replicate p.length 0) = .ok obs ∧
      Sweep p (wordsByte ws) (min (4 * l) nb) obs :=
  forRange_inv0 (fun i obs => Sweep p (wordsByte ws) (min (4 * i) nb) obs) _ l _ (by simpa using sweep_zero p _)
    fun i obs0 hi h0 => sweep_word p ws nb i 4 hnb (Nat.le_refl _) (g i) (fun j obs hj => hg i j obs hi hj) obs0 h0

theorem nea1Ks_length (ck : Bytes) (count bearer direction : W32) (length : Nat) :
    (nea1Ks ck count bearer direction length).length = (length + 31) / 32 := by
  unfold nea1Ks; simp only []; split <;> simp [Snow3g.GetKeyStream_length]

theorem nea1_sweep (ck : Bytes) (count bearer direction : W32) (p : Bytes) (length : Nat) (hlen : (length + 7) / 8 ≤ p.length) :
    ∃ obs, NEA1 ck count bearer direction p length = .ok obs ∧
      Sweep p (wordsByte (nea1Ks ck count bearer direction length)) ((length + 7) / 8) obs := by
  have hks := nea1Ks_length ck count bearer direction length
  unfold NEA1
  simp only []
  rw [show [_, count, _, count] = snowIv count bearer direction from rfl,
    show (if length % 32 ≠ 0 then _ else _ : List W32) = nea1Ks ck count bearer direction length from rfl]
  generalize nea1Ks ck count bearer direction length = ks at hks ⊢
  obtain ⟨obs, hrun, hinv⟩ := sweep_words p ks ((length + 7) / 8) (length / 32) hlen
    (fun i j obs => if i < ks.length then xorAt p (4 * i + j) (ksByte (ks.getD i 0) j) obs else .panic)
    (fun i j obs hi hj => by rw [if_pos (by omega), if_pos (by omega)])
  rw [hrun]
  simp only []
  by_cases hm : length % 32 ≠ 0
  · rw [if_pos hm]
    obtain ⟨obs1, h1, s1⟩ := sweep_word p ks ((length + 7) / 8) (length / 32) ((length % 32 + 7) / 8) hlen (by omega)
      (fun j obs => if length / 32 < ks.length then xorAt p (4 * (length / 32) + j) (ksByte (ks.getD (length / 32) 0) j) obs else .panic)
      (fun j obs hj => by rw [if_pos (by omega), if_pos (by omega)]) obs hinv
    exact ⟨obs1, h1, s1.cast (by omega)⟩
  · rw [if_neg hm]
    exact ⟨obs, rfl, hinv.cast (by omega)⟩

theorem nea3Tail_full (length : Nat) (obs : Bytes) (h : length = obs.length * 8) : nea3Tail length obs = obs := by
  subst h
  simp only [nea3Tail, show obs.length * 8 % 8 = 0 by omega, ne_eq, not_true_eq_false, if_false, show obs.length * 8 / 8 = obs.length by omega]
  rw [List.take_of_length_le (by omega), show obs.length - (obs.length + 1) = 0 by omega, List.replicate_zero, List.append_nil]

theorem nea3_sweep (ck : Bytes) (count : W32) (bearer direction : UInt8) (p : Bytes) (length : Nat) (hlen : (length + 7) / 8 ≤ p.length) :
    ∃ obs, NEA3 ck count bearer direction p length = .ok (nea3Tail length obs) ∧
      Sweep p (wordsByte (zucStream ck count bearer direction ((length + 31) / 32))) ((length + 7) / 8) obs := by
  unfold NEA3
  simp only []
  rw [show Zuc.Zuc _ _ ((length + 31) / 32) = zucStream ck count bearer direction ((length + 31) / 32) from rfl]
  obtain ⟨obs, hrun, hs⟩ := sweep_words p (zucStream ck count bearer direction ((length + 31) / 32)) ((length + 7) / 8) ((length + 31) / 32) hlen
    (fun i j obs => if i * 4 + j < (length + 7) / 8 then
      xorAt p (i * 4 + j) (ksByte ((zucStream ck count bearer direction ((length + 31) / 32)).getD i 0) j) obs else .ok obs)
    (fun i j obs _ _ => by rw [Nat.mul_comm i 4])
  have hs : Sweep p _ ((length + 7) / 8) obs := hs.cast (by omega)
  refine ⟨obs, ?_, hs⟩
  rw [hrun]
  have hl := hs.1
  by_cases h8 : length % 8 ≠ 0
  · simp only [nea3Tail, if_pos h8, if_pos (show length / 8 < obs.length by omega)]
  · simp only [nea3Tail, if_neg h8]

theorem ksByte_bit (w : W32) (j b : Nat) (hj : j < 4) (hb : b < 8) :
    (ksByte w j).toNat.testBit (7 - b) = w.toNat.testBit (31 - (8 * j + b)) := by
  unfold ksByte
  have hlt : (w >>> (8 * (3 - j))).toNat % 256 < 256 := Nat.mod_lt _ (by omega)
  rw [UInt8.toNat_ofNat_of_lt' hlt, BitVec.toNat_ushiftRight, Nat.shiftRight_eq_div_pow,
    show (256 : Nat) = 2 ^ 8 from rfl, Nat.testBit_mod_two_pow, Nat.testBit_div_two_pow,
    show 7 - b + 8 * (3 - j) = 31 - (8 * j + b) by omega, decide_eq_true (show 7 - b < 8 by omega), Bool.true_and]

theorem wordsByte_bits (ws : List W32) (t : Nat) :
    (wordsByte ws (t / 8)).toNat.testBit (7 - t % 8) = (Spec.wordsBits ws).getD t false := by
  rw [wordsBits_getD, wordsByte, ksByte_bit _ _ _ (Nat.mod_lt _ (by omega)) (Nat.mod_lt _ (by omega)),
    show 8 * (t / 8 % 4) + t % 8 = t % 32 by omega, show t / 8 / 4 = t / 32 by omega]

theorem wordsByte_congr (ws ws' : List W32) (idx : Nat)
    (h : ∀ t, t / 8 = idx → (Spec.wordsBits ws).getD t false = (Spec.wordsBits ws').getD t false) :
    wordsByte ws idx = wordsByte ws' idx := by
  refine UInt8.toNat_inj.mp (Bits.eq_of_testBit_lt (w := 8) (UInt8.toNat_lt _) (UInt8.toNat_lt _) fun i hi => ?_)
  have e := h (8 * idx + (7 - i)) (by omega)
  rwa [← wordsByte_bits, ← wordsByte_bits, show (8 * idx + (7 - i)) / 8 = idx by omega,
    show 7 - (8 * idx + (7 - i)) % 8 = i by omega] at e

theorem mask_bit (w : W32) (n i : Nat) (hn : n < 32) (hi : n ≤ i) (hi32 : i < 32) :
    (w &&& ~~~ ((1#32 <<< n) - 1#32)).toNat.testBit i = w.toNat.testBit i := by
  show (w &&& ~~~ _).getLsbD i = w.getLsbD i
  rw [one_shl_sub_one 32 n hn, BitVec.getLsbD_and, BitVec.getLsbD_not, Bits.getLsbD_lowMask,
    decide_eq_true hi32, decide_eq_false (show ¬ (i < n ∧ i < 32) by omega), Bool.not_false, Bool.true_and, Bool.and_true]

theorem nea1Ks_bit (ck : Bytes) (count bearer direction : W32) (length t : Nat) (ht : t < length) :
    (Spec.wordsBits (nea1Ks ck count bearer direction length)).getD t false =
      (Spec.wordsBits (Snow3g.GetKeyStream (keyWords ck) (snowIv count bearer direction) ((length + 31) / 32))).getD t false := by
  rw [wordsBits_getD, wordsBits_getD]
  unfold nea1Ks
  simp only []
  generalize hks0 : Snow3g.GetKeyStream (keyWords ck) (snowIv count bearer direction) ((length + 31) / 32) = ks0
  have hl0 : ks0.length = (length + 31) / 32 := by rw [← hks0, Snow3g.GetKeyStream_length]
  by_cases hm : length % 32 ≠ 0
  · rw [if_pos hm]
    by_cases hi : t / 32 = (length + 31) / 32 - 1
    · rw [← hi, getD_set_eq _ _ _ _ (by omega)]
      exact mask_bit _ (32 - length % 32) _ (by omega) (by omega) (by omega)
    · rw [getD_set_ne _ _ _ _ _ (Ne.symm hi)]
  · rw [if_neg hm]

theorem ksOctets_family (ws : Nat → List W32) (hpre : ∀ n m, m ≤ n → (ws n).take m = ws m) : KsFamily (ksOctets ws) := by
  refine ⟨fun n => by simp [ksOctets], fun n m h => ?_⟩
  unfold ksOctets
  rw [← List.map_take, List.take_range, Nat.min_eq_left h]
  apply List.map_congr_left
  intro idx hidx
  have hidx := List.mem_range.mp hidx
  unfold wordsByte
  rw [← hpre ((n * 8 + 31) / 32) ((m * 8 + 31) / 32) (by omega), take_getD _ _ _ _ (by omega)]

theorem ks1_eq_map_kb1 (ck : Bytes) (c b d : W32) (n : Nat) : ks1 ck c b d n = (List.range n).map (kb1 ck c b d n) := rfl
theorem ks3_eq_map_kb3 (ck : Bytes) (c : W32) (b d : UInt8) (n : Nat) : ks3 ck c b d n = (List.range n).map (kb3 ck c b d n) := rfl

theorem ks1_family (ck : Bytes) (c b d : W32) : KsFamily (ks1 ck c b d) := ksOctets_family _ (Snow3g.GetKeyStream_prefix _ _)
theorem ks3_family (ck : Bytes) (c : W32) (b d : UInt8) : KsFamily (ks3 ck c b d) := ksOctets_family _ (Zuc.Zuc_prefix _ _)

theorem ks1_length (ck : Bytes) (c b d : W32) (n : Nat) : (ks1 ck c b d n).length = n := (ks1_family ck c b d).1 n
theorem ks3_length (ck : Bytes) (c : W32) (b d : UInt8) (n : Nat) : (ks3 ck c b d n).length = n := (ks3_family ck c b d).1 n

theorem ks1_prefix (ck : Bytes) (c b d : W32) (n m : Nat) (h : m ≤ n) : (ks1 ck c b d n).take m = ks1 ck c b d m :=
  (ks1_family ck c b d).2 n m h

theorem ks3_prefix (ck : Bytes) (c : W32) (b d : UInt8) (n m : Nat) (h : m ≤ n) : (ks3 ck c b d n).take m = ks3 ck c b d m :=
  (ks3_family ck c b d).2 n m h

theorem nea1_bytes (ck : Bytes) (count bearer direction : W32) (p : Bytes) :
    NEA1 ck count bearer direction p (p.length * 8) =
      .ok (Spec.AES.xorB p ((List.range p.length).map (kb1 ck count bearer direction p.length))) := by
  obtain ⟨obs, hrun, hs⟩ := nea1_sweep ck count bearer direction p (p.length * 8) (by omega)
  unfold kb1
  rw [hrun, sweep_full p _ _ obs hs (by omega)]
  congr 2
  apply List.map_congr_left
  intro idx hidx
  have hidx := List.mem_range.mp hidx
  exact wordsByte_congr _ _ idx (fun t ht => nea1Ks_bit _ _ _ _ _ t (by omega))

theorem nea3_bytes (ck : Bytes) (count : W32) (bearer direction : UInt8) (p : Bytes) :
    NEA3 ck count bearer direction p (p.length * 8) =
      .ok (Spec.AES.xorB p ((List.range p.length).map (kb3 ck count bearer direction p.length))) := by
  obtain ⟨obs, hrun, hs⟩ := nea3_sweep ck count bearer direction p (p.length * 8) (by omega)
  unfold kb3
  rw [hrun, nea3Tail_full _ obs (by rw [hs.1]), sweep_full p _ _ obs hs (by omega)]

theorem xorB_length_eq (p ks : Bytes) (h : ks.length = p.length) : (Spec.AES.xorB p ks).length = p.length := by
  simp [Spec.AES.xorB, h]

theorem xorB_xorB (p ks : Bytes) (h : ks.length = p.length) : Spec.AES.xorB (Spec.AES.xorB p ks) ks = p := by
  induction p generalizing ks with
  | nil => rfl
  | cons a p ih =>
    obtain _ | ⟨k, ks⟩ := ks
    · cases h
    · have := ih ks (Nat.succ.inj h)
      simp only [Spec.AES.xorB, List.zipWith_cons_cons] at this ⊢
      rw [this, UInt8.xor_assoc, UInt8.xor_self, UInt8.xor_zero]

theorem xorB_take (p ks : Bytes) (n : Nat) : (Spec.AES.xorB p ks).take n = Spec.AES.xorB (p.take n) (ks.take n) := by
  simp [Spec.AES.xorB, List.take_zipWith]

theorem xorB_comm (a b : Bytes) : Spec.AES.xorB a b = Spec.AES.xorB b a :=
  List.zipWith_comm_of_comm fun _ _ => UInt8.xor_comm _ _

/-- `NASEncrypt` ends with Go's `copy(payload, output)`, which is the output when the lengths agree -/
theorem copy_same (p out : Bytes) (h : out.length = p.length) : out.take p.length ++ p.drop out.length = out := by
  rw [← h, List.take_length, h, List.drop_length, List.append_nil]

theorem nasEncrypt_nea1 (E : Bytes → Bytes → Bytes) (key : Bytes) (count : W32) (b d : UInt8) (p out : Bytes)
    (hb : ¬ b > 0x1f) (hd : ¬ d > 1)
    (h : NEA1 key count (BitVec.ofNat 32 b.toNat) (BitVec.ofNat 32 d.toNat) p (p.length * 8) = .ok out) :
    NASEncrypt E 1 key count b d (some p) = .ok ⟨false, some (out.take p.length ++ p.drop out.length)⟩ := by
  simp only [NASEncrypt, if_neg hb, if_neg hd, if_neg (by decide : ¬ (1 : UInt8) = 0), if_true, h]

theorem nasEncrypt_nea2 (E : Bytes → Bytes → Bytes) (key : Bytes) (count : W32) (b d : UInt8) (p out : Bytes)
    (hb : ¬ b > 0x1f) (hd : ¬ d > 1) (h : NEA2 E key count b d p = .ok out) :
    NASEncrypt E 2 key count b d (some p) = .ok ⟨false, some (out.take p.length ++ p.drop out.length)⟩ := by
  simp only [NASEncrypt, if_neg hb, if_neg hd, if_neg (by decide : ¬ (2 : UInt8) = 0), if_neg (by decide : ¬ (2 : UInt8) = 1), if_true,
    h]

theorem nasEncrypt_nea3 (E : Bytes → Bytes → Bytes) (key : Bytes) (count : W32) (b d : UInt8) (p out : Bytes)
    (hb : ¬ b > 0x1f) (hd : ¬ d > 1) (h : NEA3 key count b d p (p.length * 8) = .ok out) :
    NASEncrypt E 3 key count b d (some p) = .ok ⟨false, some (out.take p.length ++ p.drop out.length)⟩ := by
  simp only [NASEncrypt, if_neg hb, if_neg hd, if_neg (by decide : ¬ (3 : UInt8) = 0), if_neg (by decide : ¬ (3 : UInt8) = 1),
    if_neg (by decide : ¬ (3 : UInt8) = 2), if_true, h]

theorem nasEncrypt1_form (E : Bytes → Bytes → Bytes) (key : Bytes) (count : W32) (b d : UInt8) (q : Bytes)
    (hb : ¬ b > 0x1f) (hd : ¬ d > 1) :
    NASEncrypt E 1 key count b d (some q) =
      .ok ⟨false, some (Spec.AES.xorB q (ks1 key count (BitVec.ofNat 32 b.toNat) (BitVec.ofNat 32 d.toNat) q.length))⟩ := by
  have h := nea1_bytes key count (BitVec.ofNat 32 b.toNat) (BitVec.ofNat 32 d.toNat) q
  rw [← ks1_eq_map_kb1] at h
  rw [nasEncrypt_nea1 E key count b d q _ hb hd h, copy_same q _ (xorB_length_eq q _ (ks1_length ..))]

theorem nasEncrypt3_form (E : Bytes → Bytes → Bytes) (key : Bytes) (count : W32) (b d : UInt8) (q : Bytes)
    (hb : ¬ b > 0x1f) (hd : ¬ d > 1) :
    NASEncrypt E 3 key count b d (some q) = .ok ⟨false, some (Spec.AES.xorB q (ks3 key count b d q.length))⟩ := by
  have h := nea3_bytes key count b d q
  rw [← ks3_eq_map_kb3] at h
  rw [nasEncrypt_nea3 E key count b d q _ hb hd h, copy_same q _ (xorB_length_eq q _ (ks3_length ..))]

theorem nasEncrypt13_form (E : Bytes → Bytes → Bytes) (algo : UInt8) (key : Bytes) (count : W32) (b d : UInt8) (q : Bytes)
    (ha : algo = 1 ∨ algo = 3) (hb : ¬ b > 0x1f) (hd : ¬ d > 1) :
    NASEncrypt E algo key count b d (some q) = .ok ⟨false, some (Spec.AES.xorB q
      (if algo = 1 then ks1 key count (BitVec.ofNat 32 b.toNat) (BitVec.ofNat 32 d.toNat) q.length else ks3 key count b d q.length))⟩ := by
  rcases ha with rfl | rfl
  · rw [if_pos rfl]
    exact nasEncrypt1_form E key count b d q hb hd
  · rw [if_neg (by decide : ¬ (3 : UInt8) = 1)]
    exact nasEncrypt3_form E key count b d q hb hd

end NasVerif.Proofs.EncLoops

import NasVerif.Model.Snow3g
import NasVerif.Spec.Snow3G
import NasVerif.Proofs.Bits
/-! # The model of snow3g.go computes the SNOW 3G keystream of the specification (given equal S-box tables) -/
namespace NasVerif.Proofs.Snow3gRefine
open NasVerif NasVerif.Model.Snow3g

/-- The regenerated S-box tables are the specification's. The refinement takes this as a hypothesis and `C06.tables_eq`
discharges it by one evaluation: a table that changes in the source fails there, and nothing in this file evaluates a table. -/
abbrev TablesEq : Prop :=
  Gen.Crypto.snow_sr = Spec.Tab.snow_sr ∧ Gen.Crypto.snow_sq = Spec.Tab.snow_sq

theorem mulx_eq (V c : W8) : mulx V c = Spec.Snow3G.MULx V c := by
  unfold mulx Spec.Snow3G.MULx
  rw [show (0x80#8) = BitVec.twoPow 8 (8 - 1) from rfl, Bits.msb_test V (by omega)]

theorem mulxPow_eq (V : W8) (i : Nat) (c : W8) : mulxPow V i c = Spec.Snow3G.MULxPOW V i c := by
  induction i with
  | zero => rfl
  | succ i ih => simp [mulxPow, Spec.Snow3G.MULxPOW, ih, mulx_eq]

theorem sr_eq (h : TablesEq) (x : W32) : sr (x &&& 0xff#32) = Spec.Snow3G.SR (x.setWidth 8) := by
  unfold sr Spec.Snow3G.SR; rw [Bits.toNat_and_ff, BitVec.toNat_setWidth, h.1]
theorem sq_eq (h : TablesEq) (x : W32) : sq (x &&& 0xff#32) = Spec.Snow3G.SQ (x.setWidth 8) := by
  unfold sq Spec.Snow3G.SQ; rw [Bits.toNat_and_ff, BitVec.toNat_setWidth, h.2]

theorem s1_eq (h : TablesEq) (w : W32) : s1 w = Spec.Snow3G.S1 w := by
  unfold s1 Spec.Snow3G.S1 Spec.Snow3G.byte Spec.Snow3G.cat4 u32
  simp only [sr_eq h, mulx_eq]
  rfl

theorem s2_eq (h : TablesEq) (w : W32) : s2 w = Spec.Snow3G.S2 w := by
  unfold s2 Spec.Snow3G.S2 Spec.Snow3G.byte Spec.Snow3G.cat4 u32
  simp only [sq_eq h, mulx_eq]
  rfl

theorem mulAlpha_eq (c : W8) : mulAlpha c = Spec.Snow3G.MULa c := by
  simp [mulAlpha, Spec.Snow3G.MULa, Spec.Snow3G.cat4, u32, mulxPow_eq]
theorem divAlpha_eq (c : W8) : divAlpha c = Spec.Snow3G.DIVa c := by
  simp [divAlpha, Spec.Snow3G.DIVa, Spec.Snow3G.cat4, u32, mulxPow_eq]

def toSpec (s : State) : Spec.Snow3G.St := ⟨s.lfsr, s.fsm0, s.fsm1, s.fsm2⟩

theorem byte_0 (w : W32) : (w >>> 24).setWidth 8 &&& 0xff#8 = Spec.Snow3G.byte w 0 := by
  rw [show (0xff#8) = BitVec.allOnes 8 from rfl, BitVec.and_allOnes]
  rfl

theorem byte_3 (w : W32) : (w &&& 0xff#32).setWidth 8 = Spec.Snow3G.byte w 3 := by
  apply BitVec.eq_of_toNat_eq
  rw [Spec.Snow3G.byte, show 8 * (3 - 3) = 0 from rfl, BitVec.ushiftRight_zero, BitVec.toNat_setWidth, Bits.toNat_and_ff,
    BitVec.toNat_setWidth, Nat.mod_mod]

theorem lfsrInit_eq (s : State) (F : W32) : toSpec (lfsrInitializationMode s F) = Spec.Snow3G.lfsrStep (toSpec s) F := by
  simp only [lfsrInitializationMode, toSpec, Spec.Snow3G.lfsrStep, shiftIn, feedback, Spec.Snow3G.sAt, State.l,
    mulAlpha_eq, divAlpha_eq, byte_0, byte_3]

theorem lfsrKs_eq (s : State) : toSpec (lfsrKeystreamMode s) = Spec.Snow3G.lfsrStep (toSpec s) 0 := by
  simpa [lfsrKeystreamMode, lfsrInitializationMode] using lfsrInit_eq s 0

/-- The model returns (state, F), the specification (F, state), hence an equation of pairs. It is used right to left:
`simp only [← clockFsm_eq h s]` puts the pair of the model's results in place of the specification's call, and the
specification's `let (F, st') := clockFSM st` reduces on it. -/
theorem clockFsm_eq (h : TablesEq) (s : State) :
    ((clockFsm s (s.l 15) (s.l 5)).2, toSpec (clockFsm s (s.l 15) (s.l 5)).1) = Spec.Snow3G.clockFSM (toSpec s) := by
  simp [Spec.Snow3G.clockFSM, clockFsm, toSpec, Spec.Snow3G.sAt, State.l, s1_eq h, s2_eq h]

theorem initLoop_eq (h : TablesEq) (n : Nat) (s : State) : toSpec (initLoop n s) = Spec.Snow3G.initRounds n (toSpec s) := by
  induction n generalizing s with
  | zero => rfl
  | succ n ih =>
    simp only [initLoop, Spec.Snow3G.initRounds, ← clockFsm_eq h s]
    rw [ih, lfsrInit_eq]

theorem ksLoop_eq (h : TablesEq) (n : Nat) (s : State) : ksLoop n s = Spec.Snow3G.ksLoop n (toSpec s) := by
  induction n generalizing s with
  | zero => rfl
  | succ n ih =>
    simp only [ksLoop, Spec.Snow3G.ksLoop, ← clockFsm_eq h s]
    rw [ih, lfsrKs_eq]
    simp [toSpec, Spec.Snow3G.sAt, State.l]

theorem GetKeyStream_eq (h : TablesEq) (k iv : List W32) (n : Nat) :
    GetKeyStream k iv n = Spec.Snow3G.keystream k iv n := by
  unfold GetKeyStream generateKeystream Spec.Snow3G.keystream
  have hinit : toSpec (newSnow3g k iv) = Spec.Snow3G.initRounds 32 (Spec.Snow3G.initSt k iv) := by
    unfold newSnow3g
    rw [initLoop_eq h]
    rfl
  simp only [ksLoop_eq h, lfsrKs_eq, ← hinit, ← clockFsm_eq h]

end NasVerif.Proofs.Snow3gRefine

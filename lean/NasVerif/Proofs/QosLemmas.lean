import NasVerif.Model.Qos
import NasVerif.Proofs.NoPanic
import NasVerif.Proofs.Walk
import NasVerif.Proofs.Bits
namespace NasVerif.Proofs.Qos
open NasVerif NasVerif.Model.Qos

/-! The domains of the theorems of `Props/C15.lean`: the values that the serialisers write so that the parsers read the same value
back (every field fits the bits it is packed into). -/

def KnownParamId (id : UInt8) : Prop := id = 1 ∨ id = 2 ∨ id = 3 ∨ id = 4 ∨ id = 5 ∨ id = 6 ∨ id = 7

def WFDesc (d : FlowDesc) : Prop := d.params.length ≤ 63 ∧ d.op ≤ 7

def WFComp : Comp → Prop
  | .ipv4Remote a m | .ipv4Local a m => a.length = 4 ∧ m.length = 4
  | .flowLabel v => v < 524288
  | .dstMac m | .srcMac m => m.length = 6
  | _ => True

def WFPf (pf : PacketFilter) : Prop :=
  pf.id < 16 ∧ pf.dir < 16 ∧ (∀ c ∈ pf.comps, WFComp c) ∧ ∀ cb, marshalComps pf.comps = .ok cb → cb.length ≤ 255

def WFPfDelete (pf : PacketFilter) : Prop := pf.id < 16 ∧ pf.dir = 0 ∧ pf.comps = []

def WFRule (r : Rule) : Prop :=
  r.op ≤ 7 ∧ r.pfs.length ≤ 15 ∧ r.qfi < 64 ∧ (if r.op = 5 then ∀ p ∈ r.pfs, WFPfDelete p else ∀ p ∈ r.pfs, WFPf p)

/-- `Bits.mul_two_pow_or` in the form `UIntN.toNat_shiftLeft` leaves -/
theorem shl_mod_or (x y k w : Nat) (hx : x * 2 ^ k < 2 ^ w) (hy : y < 2 ^ k) : x <<< k % 2 ^ w ||| y = x * 2 ^ k + y := by
  rw [Nat.shiftLeft_eq, Nat.mod_eq_of_lt hx, Bits.mul_two_pow_or _ _ _ hy]

theorem u16Of_toNat (a b : UInt8) : ((a.toUInt16 <<< 8) ||| b.toUInt16).toNat = a.toNat * 256 + b.toNat := by
  have ha := a.toNat_lt
  simp only [UInt16.toNat_or, UInt16.toNat_shiftLeft, UInt8.toNat_toUInt16, UInt16.toNat_ofNat]
  exact shl_mod_or _ _ 8 16 (by omega) b.toNat_lt

/-- stated, like `be32_roundtrip` and `u24_roundtrip`, in the form `simp` brings `(v >>> 8).toUInt8.toUInt16` to -/
theorem u16_roundtrip (v : UInt16) : (v >>> 8 % 256) <<< 8 ||| v % 256 = v := by
  have h : ((v >>> 8).toUInt8.toUInt16 <<< 8) ||| v.toUInt8.toUInt16 = v := by
    apply UInt16.toNat_inj.mp
    have hv := v.toNat_lt
    simp only [u16Of_toNat, UInt16.toNat_toUInt8, UInt16.toNat_shiftRight, UInt16.toNat_ofNat, Nat.reducePow, Nat.reduceMod,
      Nat.shiftRight_eq_div_pow]
    omega
  simpa using h

theorem u32Of_toNat (a b c d : UInt8) :
    ((a.toUInt32 <<< 24) ||| (b.toUInt32 <<< 16) ||| (c.toUInt32 <<< 8) ||| d.toUInt32).toNat =
      a.toNat * 16777216 + b.toNat * 65536 + c.toNat * 256 + d.toNat := by
  have ha := a.toNat_lt
  have hb := b.toNat_lt
  have hc := c.toNat_lt
  have hd := d.toNat_lt
  simp only [UInt32.toNat_or, UInt32.toNat_shiftLeft, UInt8.toNat_toUInt32, UInt32.toNat_ofNat, Nat.or_assoc]
  rw [shl_mod_or _ _ 8 32 (by omega) hd, shl_mod_or _ _ 16 32 (by omega) (by omega), shl_mod_or _ _ 24 32 (by omega) (by omega)]
  omega

theorem be32_roundtrip (v : UInt32) : (v >>> 24 % 256) <<< 24 ||| (v >>> 16 % 256) <<< 16 ||| (v >>> 8 % 256) <<< 8 ||| v % 256 = v := by
  have h : (((v >>> 24).toUInt8.toUInt32 <<< 24) ||| ((v >>> 16).toUInt8.toUInt32 <<< 16) ||| ((v >>> 8).toUInt8.toUInt32 <<< 8) |||
      v.toUInt8.toUInt32) = v := by
    apply UInt32.toNat_inj.mp
    have hv := v.toNat_lt
    simp only [u32Of_toNat, UInt32.toNat_toUInt8, UInt32.toNat_shiftRight, UInt32.toNat_ofNat, Nat.reducePow, Nat.reduceMod,
      Nat.shiftRight_eq_div_pow]
    omega
  simpa using h

theorem u24_roundtrip (v : UInt32) (hv : v < 16777216) : (v >>> 16 % 256) <<< 16 ||| (v >>> 8 % 256) <<< 8 ||| v % 256 = v := by
  have h := be32_roundtrip v
  have h0 : v >>> 24 % 256 = 0 := by
    apply UInt32.toNat_inj.mp
    have : v.toNat < 16777216 := UInt32.lt_iff_toNat_lt.mp hv
    simp only [UInt32.toNat_mod, UInt32.toNat_shiftRight, UInt32.toNat_ofNat, Nat.reducePow, Nat.reduceMod, Nat.shiftRight_eq_div_pow]
    omega
  rw [h0] at h
  simpa using h

theorem eats_readU8 : Eats 1 readU8 := fun b => by cases b <;> simp [readU8]

theorem eats_readU16 : Eats 2 readU16
  | [] => trivial
  | [_] => trivial
  | _ :: _ :: _ => by simp [readU16]

theorem post_bitRate (mk : UInt8 → UInt16 → FlowParam) (b : Bytes) : (bitRate mk b).Post fun _ => True :=
  (eats_readU8 b).bind fun (_, r) _ _ => (eats_readU16 r).bind fun _ _ _ => trivial

theorem parseParam_unknown {id : UInt8} (b : Bytes) (h : ¬ KnownParamId id) : parseParam id b = none := by
  simp only [KnownParamId, not_or] at h
  obtain ⟨h1, h2, h3, h4, h5, h6, h7⟩ := h
  rw [parseParam, if_neg h1, if_neg h2, if_neg h3, if_neg h4, if_neg h5, if_neg h6, if_neg h7]

theorem post_parseParam {id : UInt8} {b : Bytes} {o : Outcome FlowParam} (h : parseParam id b = some o) : o.Post fun _ => True := by
  have one : ∀ {α k} (r : Bytes → Outcome (α × Bytes)) (mk : α → FlowParam), Eats k r →
      (do let (v, _) ← r b; pure (mk v)).Post fun _ => True := fun r mk hr => (hr b).bind fun _ _ _ => trivial
  by_cases hk : KnownParamId id
  · rcases hk with rfl | rfl | rfl | rfl | rfl | rfl | rfl <;> cases h
    · exact one readU8 _ eats_readU8
    · exact post_bitRate _ _
    · exact post_bitRate _ _
    · exact post_bitRate _ _
    · exact post_bitRate _ _
    · exact one readU16 _ eats_readU16
    · exact one readU8 _ eats_readU8
  · rw [parseParam_unknown b hk] at h; cases h

theorem eats_parseParamList : ∀ n, Eats 0 (parseParamList n)
  | 0, b => Nat.le_refl b.length
  | n + 1, b => by
    unfold parseParamList
    refine (eats_readU8 b).bind fun (id, r1) _ h1 => (eats_readU8 r1).bind fun (len, r2) _ h2 => ?_
    dsimp only
    split
    · trivial
    · next o ho =>
      refine (post_parseParam ho).bind fun p _ _ => (eats_parseParamList n _).bind fun (ps, rest) _ h3 => ?_
      simp only [Outcome.pure_eq, Outcome.post_ok, List.length_drop] at *
      omega

theorem eats_parseFlowDesc : Eats 3 parseFlowDesc := fun b => by
  unfold parseFlowDesc
  refine (eats_readU8 b).bind fun (qfi, r1) _ h1 => (eats_readU8 r1).bind fun (op, r2) _ h2 =>
    (eats_readU8 r2).bind fun (n, r3) _ h3 => ?_
  dsimp only
  split
  · refine (eats_parseParamList _ r3).bind fun (ps, rest) _ h4 => ?_
    simp only [Outcome.pure_eq, Outcome.post_ok] at *
    omega
  · simp only [Outcome.pure_eq, Outcome.post_ok] at *
    omega

theorem unmarshalDescsLoop_eq : unmarshalDescsLoop = walk (endOnEof parseFlowDesc) :=
  loop_eq_walk (fun _ _ => rfl) fun n b a => by
    rw [unmarshalDescsLoop, endOnEof]; cases parseFlowDesc b with | err e => cases e <;> rfl | _ => rfl

theorem readU16_be16 (v : UInt16) (r : Bytes) : readU16 (be16 v ++ r) = .ok (v, r) := by
  simp [be16, readU16, u16_roundtrip]

theorem parseParam_body (p : FlowParam) : parseParam p.ident p.body = some (.ok p) := by
  have h (v : UInt16) : readU16 (be16 v) = .ok (v, []) := by simpa using readU16_be16 v []
  cases p <;> simp [FlowParam.ident, FlowParam.body, parseParam, bitRate, readU8, h]

theorem parseParamList_marshal (l : List FlowParam) (rest : Bytes) :
    parseParamList l.length (marshalParams l ++ rest) = .ok (l, rest) := by
  induction l with
  | nil => rfl
  | cons p ps ih =>
    have hl := UInt8.toNat_ofNat_of_lt' (show p.body.length < 256 by cases p <;> simp [FlowParam.body, be16])
    simp only [marshalParams] at ih
    simp only [marshalParams, List.flatMap_cons, List.length_cons, List.cons_append, List.append_assoc, parseParamList, readU8,
      Outcome.bind_ok, hl, List.take_left, List.drop_left, parseParam_body, ih, Outcome.pure_eq]

/-! The packed octets. An octet that a serialiser assembles from bounded fields with `<<<` and `|||` has two lemmas, here and (for
the rule header and the QFI octet) before `rulePfs_marshal`, both proved by running through the values of the fields.
`…_value` gives the octet as a number, `UInt8.ofNat` of the sum of each field times the weight of its lowest bit (the fields
do not overlap, so `|||` adds): the form in which `marshalDesc_eq` and the layout theorems of `Props/C15.lean` spell an octet
out. `…_reads` gives what the parser's masks and shifts get out of that octet. -/

theorem op_value : ∀ o : UInt8, o ≤ 7 → o <<< 5 = UInt8.ofNat (o.toNat * 32) := Bits.forall_octet_le (by decide)

theorem op_reads : ∀ o : UInt8, o ≤ 7 → (o <<< 5) >>> 5 = o := Bits.forall_octet_le (by decide)

theorem desc_header_value : ∀ n, n < 64 →
    let nn := UInt8.ofNat n
    let e : UInt8 := if nn ≠ 0 then 1 else 0
    (e <<< 6) ||| nn = UInt8.ofNat ((if n = 0 then 0 else 64) + n) ∧ (e = 1 ↔ n ≠ 0) := by
  decide +kernel

theorem desc_header_reads : ∀ n, n < 64 →
    let h := UInt8.ofNat ((if n = 0 then 0 else 64) + n)
    (h ≠ 0 ↔ n ≠ 0) ∧ (h &&& 63).toNat = n := by
  decide +kernel

theorem marshalDesc_eq (d : FlowDesc) (hn : d.params.length ≤ 63) :
    marshalDesc d = [d.qfi, d.op <<< 5, UInt8.ofNat ((if d.params.length = 0 then 0 else 64) + d.params.length)] ++
      marshalParams d.params := by
  obtain ⟨hb, he⟩ := desc_header_value d.params.length (by omega)
  unfold marshalDesc
  simp only [hb]
  by_cases hz : d.params.length = 0
  · rw [if_neg fun h => he.mp h hz, List.eq_nil_of_length_eq_zero hz]; rfl
  · rw [if_pos (he.mpr hz)]

theorem parseFlowDesc_marshal (d : FlowDesc) (hw : WFDesc d) (rest : Bytes) :
    parseFlowDesc (marshalDesc d ++ rest) = .ok (d, rest) := by
  obtain ⟨qfi, op, ps⟩ := d
  obtain ⟨hn, ho⟩ := hw
  simp only at hn ho
  obtain ⟨h3, h4⟩ := desc_header_reads ps.length (by omega)
  rw [marshalDesc_eq _ hn]
  unfold parseFlowDesc
  simp only [List.cons_append, List.nil_append, readU8, Outcome.bind_ok, op_reads op ho, h4]
  cases ps with
  | nil => rfl
  | cons p ps' =>
    rw [if_pos (h3.mpr (by simp)), parseParamList_marshal]
    rfl

theorem np_u16At {b : Bytes} {i : Nat} (h : i + 1 < b.length) : NoPanic (u16At b i) :=
  np_bind (np_idx_iff.mpr (by omega)) fun _ _ => np_bind (np_idx_iff.mpr h) fun _ _ => np_ok _

/-- Table 9.11.4.13.1: component type, length of its contents -/
def compTypes : List (UInt8 × Nat) :=
  [(0x01, 0), (0x10, 8), (0x11, 8), (0x30, 1), (0x40, 2), (0x41, 4), (0x50, 2), (0x51, 4), (0x60, 4), (0x70, 2), (0x80, 3),
   (0x81, 6), (0x82, 6), (0x83, 2), (0x84, 2), (0x85, 1), (0x86, 1), (0x87, 2)]

theorem compLen_mem {t : UInt8} {len : Nat} (h : compLen t = some len) : (t, len) ∈ compTypes := by
  -- the graph of `compLen` is the table, checked on each of the 256 type octets (`∀ l ∈ o, …` over an `Option` is decidable)
  have all : ∀ t : UInt8, ∀ l ∈ compLen t, (t, l) ∈ compTypes := Bits.forall_byte (by decide +kernel)
  exact all t len (Option.mem_def.mpr h)

theorem np_parseComp_row : ∀ p ∈ compTypes, ∀ b : Bytes, b.length = p.2 → NoPanic (parseComp p.1 p.2 b) := by
  simp only [compTypes, List.forall_mem_cons, List.not_mem_nil, false_imp_iff, implies_true, and_true]
  and_intros
  all_goals
    intro b hb
    -- the length guard and the tests on the type select the row's reader; this comes first because the `np_simp` rule for
    -- `if` keeps both branches
    simp (config := { decide := true }) only [parseComp, hb, ne_eq, ↓reduceIte]
    simp (config := { decide := true }) only [hb, np_u16At, np_simp]

theorem post_parseComp {t : UInt8} {len : Nat} (b : Bytes) (h : compLen t = some len) : (parseComp t len b).Post fun _ => True := by
  by_cases hb : b.length = len
  · exact (np_parseComp_row _ (compLen_mem h) b hb).post
  · unfold parseComp; rw [if_pos hb]; trivial

def compStep : Bytes → Outcome (Option (Comp × Bytes))
  | [] => .ok none
  | t :: r =>
    match compLen t with
    | none => .err .unknown
    | some len => do
      let c ← parseComp t len (r.take len)
      pure (some (c, r.drop len))

theorem parseComps_eq : parseComps = walk compStep :=
  loop_eq_walk (fun _ _ => rfl) fun n b a => by
    cases b with
    | nil => rfl
    | cons t r =>
      rw [parseComps, compStep]
      cases compLen t with
      | none => rfl
      | some len => dsimp only; cases parseComp t len (List.take len r) <;> rfl

theorem consumes_compStep : Consumes compStep
  | [] => fun _ e => nomatch e
  | t :: r => by
    rw [compStep]
    split
    · trivial
    · next len hl =>
      refine (post_parseComp _ hl).bind fun c _ _ _ e => ?_
      cases e
      simp only [List.length_drop, List.length_cons]
      omega

theorem post_parseComps (b : Bytes) : (parseComps (b.length + 1) b []).Post fun _ => True := by
  rw [parseComps_eq]; exact (walk_total consumes_compStep b).post

theorem eats_parsePfList : ∀ n, Eats 0 (parsePfList n)
  | 0, b => Nat.le_refl b.length
  | n + 1, b => by
    unfold parsePfList
    refine (eats_readU8 b).bind fun (h, r1) _ h1 => (eats_readU8 r1).bind fun (len, r2) _ h2 => ?_
    dsimp only
    refine (post_parseComps _).bind fun cs _ _ => (eats_parsePfList n _).bind fun (pfs, rest) _ h3 => ?_
    simp only [Outcome.pure_eq, Outcome.post_ok, List.length_drop] at *
    omega

theorem eats_parsePfDeleteList : ∀ n, Eats 0 (parsePfDeleteList n)
  | 0, b => Nat.le_refl b.length
  | n + 1, b => by
    unfold parsePfDeleteList
    refine (eats_readU8 b).bind fun (h, r) _ h1 => (eats_parsePfDeleteList n r).bind fun (pfs, rest) _ h2 => ?_
    simp only [Outcome.pure_eq, Outcome.post_ok] at *
    omega

theorem eats_parseRuleBody (id : UInt8) : Eats 5 (parseRuleBody id) := fun b => by
  unfold parseRuleBody
  refine (eats_readU16 b).bind fun (l, r1) _ h1 => (eats_readU8 r1).bind fun (h, r2) _ h2 => ?_
  dsimp only
  have hpf : Eats 0 fun r =>
      if h >>> 5 = 5 then parsePfDeleteList (h &&& 0x0f).toNat r else parsePfList (h &&& 0x0f).toNat r := by
    intro r
    split
    · exact eats_parsePfDeleteList _ r
    · exact eats_parsePfList _ r
  refine (hpf r2).bind fun (pfs, r3) _ h3 => (eats_readU8 r3).bind fun (p, r4) _ h4 => (eats_readU8 r4).bind fun (q, r5) _ h5 => ?_
  simp only [Outcome.pure_eq, Outcome.post_ok] at *
  omega

def ruleStep : Bytes → Outcome (Option (Rule × Bytes))
  | [] => .ok none
  | id :: r => do
    let x ← parseRuleBody id r
    pure (some x)

theorem unmarshalRulesLoop_eq : unmarshalRulesLoop = walk ruleStep :=
  loop_eq_walk (fun _ _ => rfl) fun n b a => by
    cases b with
    | nil => rfl
    | cons id r => rw [unmarshalRulesLoop, ruleStep]; cases parseRuleBody id r <;> rfl

theorem consumes_ruleStep : Consumes ruleStep
  | [] => fun _ e => nomatch e
  | id :: r => (eats_parseRuleBody id r).bind fun x _ h _ e => by
      cases e
      simp only [List.length_cons]
      omega

theorem be16_u16Of (c m : UInt8) : be16 ((c.toUInt16 <<< 8) ||| m.toUInt16) = [c, m] := by
  have hc := c.toNat_lt
  have hm := m.toNat_lt
  simp only [be16, List.cons.injEq, ← UInt8.toNat_inj, UInt16.toNat_toUInt8, UInt16.toNat_shiftRight, u16Of_toNat, UInt16.toNat_ofNat,
    Nat.reducePow, Nat.reduceMod, Nat.shiftRight_eq_div_pow, and_true]
  omega

theorem tos_fields (c m : UInt8) :
    let v : UInt16 := (c.toUInt16 <<< 8) ||| m.toUInt16
    ((v &&& 0xff00) >>> 8).toUInt8 = c ∧ (v &&& 0x00ff).toUInt8 = m := by
  have hc := c.toNat_lt
  have hm := m.toNat_lt
  have e1 : (65280 : Nat) >>> 8 = 2 ^ 8 - 1 := rfl
  have e2 : (255 : Nat) = 2 ^ 8 - 1 := rfl
  simp only [← UInt8.toNat_inj, UInt16.toNat_toUInt8, UInt16.toNat_shiftRight, UInt16.toNat_and, u16Of_toNat, UInt16.toNat_ofNat,
    Nat.reducePow, Nat.reduceMod]
  rw [Nat.shiftRight_and_distrib, e1, e2, Nat.and_two_pow_sub_one_eq_mod, Nat.and_two_pow_sub_one_eq_mod, Nat.shiftRight_eq_div_pow]
  omega

theorem parseComp_body (c : Comp) (hw : WFComp c) :
    ∃ b, c.body = .ok b ∧ compLen c.type = some b.length ∧ parseComp c.type b.length b = .ok c := by
  cases c with
  | ipv4Remote a m | ipv4Local a m =>
    obtain ⟨ha, hm⟩ := hw
    have h8 : (a ++ m).length = 8 := by rw [List.length_append, ha, hm]
    have hsa : slice (a ++ m) 0 4 = .ok a := by rw [slice_zero (by omega), List.take_left' ha]
    have hsm : slice (a ++ m) 4 8 = .ok m := by
      rw [slice_ok (by omega) (by omega), List.take_of_length_le (by omega), List.drop_left' ha]
    refine ⟨a ++ m, by simp [Comp.body, ha, hm], by rw [h8]; rfl, ?_⟩
    simp (config := { decide := true }) [parseComp, Comp.type, hsa, hsm]
  | tos c m =>
    refine ⟨[c, m], by simp [Comp.body, be16_u16Of], rfl, ?_⟩
    simp (config := { decide := true }) only [parseComp, Comp.type, u16At, idx_cons_zero, idx_cons_succ, Outcome.bind_ok,
      Outcome.pure_eq, List.length_cons, List.length_nil, ne_eq, if_false, if_true]
    rw [(tos_fields c m).1, (tos_fields c m).2]
  | flowLabel v =>
    have hv : v < 524288 := hw
    have hv2 : v < 16777216 := UInt32.lt_iff_toNat_lt.mpr (by have := UInt32.lt_iff_toNat_lt.mp hv; simp at this ⊢; omega)
    refine ⟨(be32 v).drop 1, by simp [Comp.body, UInt32.not_le.mpr hv], rfl, ?_⟩
    simp (config := { decide := true }) [parseComp, Comp.type, be32, u24_roundtrip v hv2]
  | dstMac m | srcMac m =>
    have hm : m.length = 6 := hw
    exact ⟨m, rfl, by rw [hm]; rfl, by simp (config := { decide := true }) [parseComp, Comp.type, hm]⟩
  | _ =>
    exact ⟨_, rfl, rfl, by
      simp (config := { decide := true }) [parseComp, Comp.type, be16, be32, u16At, u16_roundtrip, be32_roundtrip]⟩

def compEnc (c : Comp) : Outcome Bytes := do
  let b ← c.body
  pure (c.type :: b)

theorem marshalComps_eq : marshalComps = encAll compEnc := by
  funext l
  induction l with
  | nil => rfl
  | cons c r ih => rw [marshalComps, encAll, ← ih, compEnc]; cases c.body <;> rfl

theorem comps_roundtrip (cs : List Comp) (hw : ∀ c ∈ cs, WFComp c) :
    ∃ cb, marshalComps cs = .ok cb ∧ parseComps (cb.length + 1) cb [] = .ok cs := by
  obtain ⟨cb, hcb, hp⟩ := walk_encAll (step := compStep) compEnc id rfl cs fun c hc => by
    obtain ⟨b, hb, hl, hpc⟩ := parseComp_body c (hw c hc)
    exact ⟨c.type :: b, by simp [compEnc, hb], fun rest => by simp [compStep, hl, hpc]⟩
  exact ⟨cb, by rw [marshalComps_eq]; exact hcb, by rw [parseComps_eq, hp, List.map_id]⟩

theorem pf_header_reads : ∀ d : UInt8, d < 16 → ∀ i : UInt8, i < 16 →
    ((d <<< 4) ||| i) &&& 0x0f = i ∧ (((d <<< 4) ||| i) &&& 0xf0) >>> 4 = d := by
  -- both octets become `UInt8.ofNat` of a number below 16; the 16 × 16 cases are then one evaluation
  refine Bits.forall_octet_lt fun m hm => Bits.forall_octet_lt ?_
  revert m
  decide +kernel

theorem and_0f : ∀ i : UInt8, i < 16 → i &&& 0x0f = i := Bits.forall_octet_lt (by decide)

theorem parsePfList_marshal (pfs : List PacketFilter) (hw : ∀ p ∈ pfs, WFPf p) :
    ∃ bytes, buildPfList pfs = .ok bytes ∧ ∀ rest, parsePfList pfs.length (bytes ++ rest) = .ok (pfs, rest) := by
  induction pfs with
  | nil => exact ⟨[], rfl, fun rest => rfl⟩
  | cons p r ih =>
    obtain ⟨⟨hid, hdir, hcs, h255⟩, hr⟩ := List.forall_mem_cons.mp hw
    obtain ⟨bytes, hb, hp⟩ := ih hr
    obtain ⟨cb, hcb, hpc⟩ := comps_roundtrip p.comps hcs
    have hlb := UInt8.toNat_ofNat_of_lt' (show cb.length < 256 by have := h255 cb hcb; omega)
    obtain ⟨hrid, hrdir⟩ := pf_header_reads p.dir hdir p.id hid
    refine ⟨((p.dir <<< 4) ||| p.id) :: UInt8.ofNat cb.length :: cb ++ bytes, by simp [buildPfList, hcb, hb], fun rest => ?_⟩
    simp only [List.length_cons, parsePfList, List.cons_append, List.append_assoc, readU8, Outcome.bind_ok, hlb, List.take_left,
      List.drop_left, hpc, hp rest, hrid, hrdir, Outcome.pure_eq]

theorem parsePfDeleteList_marshal (pfs : List PacketFilter) (hw : ∀ p ∈ pfs, WFPfDelete p) (rest : Bytes) :
    parsePfDeleteList pfs.length (buildPfDeleteList pfs ++ rest) = .ok (pfs, rest) := by
  induction pfs with
  | nil => rfl
  | cons p r ih =>
    obtain ⟨id, dir, comps⟩ := p
    obtain ⟨⟨hid, rfl, rfl⟩, hr⟩ := List.forall_mem_cons.mp hw
    have := ih hr
    simp only [buildPfDeleteList] at this
    simp only [List.length_cons, buildPfDeleteList, List.map_cons, List.cons_append, parsePfDeleteList, readU8, Outcome.bind_ok,
      this, Outcome.pure_eq, and_0f id hid]

theorem rule_header_value : ∀ o : UInt8, o ≤ 7 → ∀ n, n < 16 → ∀ d : Bool,
    (o <<< 5) ||| (bool2bit d <<< 4) ||| UInt8.ofNat n = UInt8.ofNat (o.toNat * 32 + (if d then 16 else 0) + n) :=
  Bits.forall_octet_le (by decide +kernel)

theorem rule_header_reads : ∀ o : UInt8, o ≤ 7 → ∀ n, n < 16 → ∀ d : Bool,
    let h : UInt8 := (o <<< 5) ||| (bool2bit d <<< 4) ||| UInt8.ofNat n
    h >>> 5 = o ∧ (h &&& 0x0f).toNat = n ∧ decide ((h &&& 0x10) ≠ 0) = d :=
  Bits.forall_octet_le (by decide +kernel)

theorem rule_qfi_value : ∀ q : UInt8, q < 64 → ∀ s : Bool,
    (bool2bit s <<< 6) ||| q = UInt8.ofNat ((if s then 64 else 0) + q.toNat) :=
  Bits.forall_octet_lt (by decide +kernel)

theorem rule_qfi_reads : ∀ q : UInt8, q < 64 → ∀ s : Bool,
    let b : UInt8 := (bool2bit s <<< 6) ||| q
    decide (b >>> 6 ≠ 0) = s ∧ b &&& 63 = q :=
  Bits.forall_octet_lt (by decide +kernel)

/-- operation code 5 deletes packet filters: its list carries identifiers only -/
theorem rulePfs_marshal (op : UInt8) (pfs : List PacketFilter)
    (hw : if op = 5 then ∀ p ∈ pfs, WFPfDelete p else ∀ p ∈ pfs, WFPf p) :
    ∃ pfb, (if op = 5 then (pure (buildPfDeleteList pfs) : Outcome Bytes) else buildPfList pfs) = .ok pfb ∧ ∀ rest,
      (if op = 5 then parsePfDeleteList pfs.length (pfb ++ rest) else parsePfList pfs.length (pfb ++ rest)) = .ok (pfs, rest) := by
  by_cases h5 : op = 5
  · simp only [if_pos h5] at hw ⊢
    exact ⟨_, rfl, parsePfDeleteList_marshal pfs hw⟩
  · simp only [if_neg h5] at hw ⊢
    exact parsePfList_marshal pfs hw

theorem ruleStep_marshal (r : Rule) (hw : WFRule r) :
    ∃ bytes, marshalRule r = .ok bytes ∧ ∀ rest, ruleStep (bytes ++ rest) = .ok (some (r, rest)) := by
  obtain ⟨id, op, dqr, pfs, prec, seg, qfi⟩ := r
  obtain ⟨hop, hn, hq, hpf⟩ := hw
  simp only at hop hn hq hpf
  obtain ⟨h1, h2, h3⟩ := rule_header_reads op hop pfs.length (by omega) dqr
  obtain ⟨q1, q2⟩ := rule_qfi_reads qfi hq seg
  obtain ⟨pb, hpb, hpp⟩ := rulePfs_marshal op pfs hpf
  refine ⟨_, by unfold marshalRule; rw [hpb]; rfl, fun rest => ?_⟩
  simp only [List.cons_append, ruleStep, parseRuleBody, be16, List.nil_append, List.append_assoc, readU16, readU8, Outcome.bind_ok,
    h1, h2, h3, hpp, Outcome.pure_eq, q1, q2]

theorem marshalRules_eq : marshalRules = encAll marshalRule := by
  funext l
  induction l with
  | nil => rfl
  | cons r rs ih => rw [marshalRules, encAll, ih]

end NasVerif.Proofs.Qos

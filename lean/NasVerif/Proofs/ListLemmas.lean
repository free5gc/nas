import NasVerif.Spec.Lists
import NasVerif.Proofs.IdentityLemmas
/-!
# The vocabulary of C13, and the lemmas under its theorems

`Props/C13.lean` is stated in the definitions at the head: the values as a network function holds them (`SnssaiV`, `TaiV`), each
with its reading as a model value and as a specification value, and the encoders of one list entry.
-/
namespace NasVerif.Proofs.Lists
open NasVerif.Model.Convert NasVerif.Spec.Lists NasVerif.Spec.Identity NasVerif.Proofs.Identity

/-- `o` is the library's outcome, `s` the answer of the specification decoder -/
def Agrees {α} (o : Outcome α) (s : Option α) : Prop :=
  match s with
  | some a => o = .ok a
  | none => o.isErr = true

@[simp] theorem agrees_some {α} {o : Outcome α} {a : α} : Agrees o (some a) ↔ o = .ok a := Iff.rfl
@[simp] theorem agrees_none {α} {o : Outcome α} : Agrees o none ↔ o.isErr = true := Iff.rfl

/-- an S-NSSAI value as the network function holds it: SST and an optional 24-bit SD -/
structure SnssaiV where
  sst : UInt8
  sd  : Option (UInt8 × UInt8 × UInt8)

def SnssaiV.sdText (v : SnssaiV) : Bytes := match v.sd with | some (a, b, c) => hexText [a, b, c] | none => []

def SnssaiV.toSnssai (v : SnssaiV) : Snssai := ⟨v.sst, v.sd.map fun (a, b, c) => [a, b, c]⟩

def SnssaiV.toMapped (v : SnssaiV) : MappedSnssai := ⟨v.toSnssai, none⟩

def SnssaiV.enc (v : SnssaiV) : Bytes := snssaiToNas v.sst v.sdText

/-- one entry of a rejected NSSAI as `RejectedSnssaiToNas` writes it: an S-NSSAI and its cause -/
def encRej (e : SnssaiV × Nat) : Bytes := rejectedSnssaiToNas e.1.sst e.1.sdText (UInt8.ofNat e.2)

/-- one entry of an LADN indication: a DNN behind its length octet -/
def encDnn (d : Bytes) : Bytes := UInt8.ofNat d.length :: d

/-- a tracking area identity as the network function holds it: a PLMN and a three-octet TAC (given as 6 hex characters) -/
structure TaiV where
  plmn : Plmn
  a : UInt8
  b : UInt8
  c : UInt8

def TaiV.toModel (t : TaiV) : Tai := { mcc := t.plmn.mccText, mnc := t.plmn.mncText, tac := hexText [t.a, t.b, t.c] }

def TaiV.toOctets (t : TaiV) : TaiOctets := ⟨t.plmn.octets, [t.a, t.b, t.c]⟩

/-- per length octet the contents are too short (both sides evaluate) or have the full shape -/
theorem snssaiToModels_eq (l : UInt8) (rest : Bytes) :
    snssaiToModels l (l :: rest) = match decSnssaiLV (l :: rest) with | some (m, _) => .ok m | none => .err .badLen := by
  by_cases h1 : l = 1
  · subst h1
    match rest with
    | [] => rfl
    | s :: r => simp [snssaiToModels, decSnssaiLV]
  by_cases h2 : l = 2
  · subst h2
    match rest with
    | [] | [_] => rfl
    | s :: h :: r => simp [snssaiToModels, decSnssaiLV]
  by_cases h4 : l = 4
  · subst h4
    match rest with
    | [] | [_] | [_, _] | [_, _, _] => rfl
    | s :: a :: b :: c :: r => simp [snssaiToModels, decSnssaiLV]
  by_cases h5 : l = 5
  · subst h5
    match rest with
    | [] | [_] | [_, _] | [_, _, _] | [_, _, _, _] => rfl
    | s :: a :: b :: c :: h :: r => simp [snssaiToModels, decSnssaiLV]
  by_cases h8 : l = 8
  · subst h8
    match rest with
    | [] | [_] | [_, _] | [_, _, _] | [_, _, _, _] | [_, _, _, _, _] | [_, _, _, _, _, _] | [_, _, _, _, _, _, _] => rfl
    | s :: a :: b :: c :: h :: x :: y :: z :: r => simp [snssaiToModels, decSnssaiLV]
  · rw [decSnssaiLV_none h1 h2 h4 h5 h8, snssaiToModels, if_neg h1, if_neg h2, if_neg h4, if_neg h5, if_neg h8, ite_self]

theorem reqNssaiLoop_spec (sfuel fuel : Nat) (buf : Bytes) (off : Nat) (acc : List MappedSnssai)
    (hoff : off ≤ buf.length) (hf : buf.length < fuel + off) (hsf : buf.length - off ≤ sfuel) :
    Agrees (reqNssaiLoop fuel buf.length buf off acc) ((decNssai sfuel (buf.drop off)).map (acc ++ ·)) := by
  induction fuel generalizing sfuel off acc with
  | zero => omega
  | succ n ih =>
    by_cases hlt : off < buf.length
    · obtain ⟨k, rfl⟩ : ∃ k, sfuel = k + 1 := ⟨sfuel - 1, by omega⟩
      rw [reqNssaiLoop, if_pos hlt, idx_ok hlt, Outcome.bind_ok, sliceFrom_ok hoff, Outcome.bind_ok, drop_eq_getD_cons hlt,
        snssaiToModels_eq, decNssai]
      generalize buf.getD off 0 = l
      cases hs : decSnssaiLV (l :: buf.drop (off + 1)) with
      | none => simp [Outcome.isErr]
      | some mr =>
        obtain ⟨m, r⟩ := mr
        obtain ⟨hr, hle, hlen⟩ := decSnssaiLV_drop hs
        have hadd := snssaiLen_succ hlen
        rw [List.length_drop] at hle
        have hr' : r = buf.drop (off + (l + 1).toNat) := by rw [hr, hadd, List.drop_drop]; congr 1; omega
        have := ih k (off + (l + 1).toNat) (acc ++ [m]) (by omega) (by omega) (by omega)
        rw [← hr'] at this
        simpa [Option.map_map, Function.comp_def] using this
    · rw [reqNssaiLoop, if_neg hlt, List.drop_eq_nil_of_le (by omega)]
      cases sfuel <;> simp [decNssai]

/-- no `enc e` is empty (by `hs` the decoder would read an element from nothing), so one round per octet is enough fuel.
`walk_encAll_of_lt` (`Proofs/Walk.lean`) is the same argument for the model's loops; the decoders of `Spec/Lists.lean` return `Option`
and are no instances of `walk`. -/
theorem dec_flatMap {ε β : Type} {dec : Nat → Bytes → Option (List β)} {enc : ε → Bytes} {val : ε → β}
    (h0 : ∀ n, dec n [] = some []) (l : List ε)
    (hs : ∀ e ∈ l, ∀ n r, dec (n + 1) (enc e ++ r) = (dec n r).map (val e :: ·)) :
    dec (l.flatMap enc).length (l.flatMap enc) = some (l.map val) := by
  suffices ∀ n, (l.flatMap enc).length ≤ n → dec n (l.flatMap enc) = some (l.map val) from this _ (Nat.le_refl _)
  induction l with
  | nil => exact fun n _ => h0 n
  | cons e r ih =>
    intro n hn
    have he := hs e (by simp)
    have hp : enc e ≠ [] := fun hnil => by simpa [hnil, h0] using he 0 []
    have := List.length_pos_iff.mpr hp
    simp only [List.flatMap_cons, List.length_append] at hn ⊢
    obtain ⟨k, rfl⟩ : ∃ k, n = k + 1 := ⟨n - 1, by omega⟩
    rw [he, ih (fun x hx => hs x (by simp [hx])) k (by omega)]; rfl

theorem hexText_ne_nil (a b c : UInt8) : hexText [a, b, c] ≠ [] := by simp [hexText]

theorem sdBytes_hexText (a b c : UInt8) : sdBytes (hexText [a, b, c]) = [a, b, c] := by
  simp [sdBytes, hexDec_hexText]

/-- octet 1 of a rejected S-NSSAI as `RejectedSnssaiToNas` writes it: the length (1 or 4) above the cause -/
theorem rej_header (len : UInt8) (hl : len = 1 ∨ len = 4) : ∀ c, c < 16 →
    ((len <<< 4) + UInt8.ofNat c) >>> 4 = len ∧ ((len <<< 4) + UInt8.ofNat c) &&& 0x0f = UInt8.ofNat c := by
  rcases hl with rfl | rfl <;> decide

theorem rejected_enc_dec (es : List (SnssaiV × Nat)) (hc : ∀ e ∈ es, e.2 < 16) :
    decRejected (es.flatMap encRej).length (es.flatMap encRej) = some (es.map fun e => (e.1.toSnssai, UInt8.ofNat e.2)) := by
  refine dec_flatMap (fun n => by cases n <;> rfl) es (fun e he k r => ?_)
  obtain ⟨⟨sst, _ | ⟨a, b, c'⟩⟩, c⟩ := e
  · obtain ⟨hlen, hcause⟩ := rej_header 1 (.inl rfl) c (hc _ he)
    simp [encRej, SnssaiV.sdText, rejectedSnssaiToNas, decRejected, hlen, hcause, SnssaiV.toSnssai]
  · obtain ⟨hlen, hcause⟩ := rej_header 4 (.inr rfl) c (hc _ he)
    simp [encRej, SnssaiV.sdText, rejectedSnssaiToNas, hexText_ne_nil, sdBytes_hexText, decRejected, hlen, hcause, SnssaiV.toSnssai]

theorem ladnLoop_spec (sfuel fuel : Nat) (buf : Bytes) (off : Nat) (acc l : List Bytes)
    (hoff : off ≤ buf.length) (hf : buf.length < fuel + off)
    (hd : decLadnInd sfuel (buf.drop off) = some l) : ladnLoop fuel buf off acc = .ok (acc ++ l) := by
  induction fuel generalizing sfuel off acc l with
  | zero => omega
  | succ n ih =>
    by_cases hlt : off < buf.length
    · rw [drop_eq_getD_cons hlt] at hd
      rw [ladnLoop, if_pos hlt, idx_ok hlt, Outcome.bind_ok]
      generalize buf.getD off 0 = x at hd ⊢
      cases sfuel with
      | zero => cases hd
      | succ k =>
        rw [decLadnInd, List.length_drop] at hd
        split at hd
        · obtain ⟨l', hrec, rfl⟩ := Option.map_eq_some_iff.mp hd
          rw [List.drop_drop] at hrec
          rw [if_neg (by omega), slice_ok (by omega) (by omega), Outcome.bind_ok,
            ih k (off + 1 + x.toNat) _ l' (by omega) (by omega) hrec, List.drop_take,
            show off + 1 + x.toNat - (off + 1) = x.toNat by omega]
          simp
        · cases hd
    · rw [List.drop_eq_nil_of_le (by omega)] at hd
      have : l = [] := by cases sfuel <;> simpa [decLadnInd] using hd.symm
      rw [ladnLoop, if_neg hlt, this]; simp

theorem ladnInd_enc_dec (l : List Bytes) (hl : ∀ d ∈ l, d.length < 256) :
    decLadnInd (l.flatMap encDnn).length (l.flatMap encDnn) = some l := by
  refine (dec_flatMap (val := id) (fun n => by cases n <;> rfl) l (fun d hd k r => ?_)).trans (by rw [List.map_id])
  have hlen := UInt8.toNat_ofNat_of_lt' (hl d hd)
  simp [encDnn, decLadnInd, hlen]

theorem plmn_octets3 (p : Plmn) : ∃ x y z, p.octets = [x, y, z] := ⟨_, _, _, rfl⟩

/-- octet 1 of a partial TAI list as `TaiListToNas` writes it for type of list `t` and `k + 1` identities (at most 16, 9.11.3.9) -/
theorem tai_header (t : UInt8) (ht : t = 0 ∨ t = 2) : ∀ k, k < 16 →
    let h : UInt8 := (t <<< 5) + (UInt8.ofNat (k + 1) - 1)
    h >>> 7 = 0 ∧ (h >>> 5) &&& 3 = t ∧ (h &&& 0x1f).toNat + 1 = k + 1 := by
  rcases ht with rfl | rfl <;> decide

theorem taiBodySame_spec (l : List TaiV) (pl : Bytes) (h : ∀ t ∈ l, t.plmn.octets = pl) :
    takeTacs l.length pl (taiBodySame (l.map TaiV.toModel)) = some (l.map TaiV.toOctets) := by
  induction l with
  | nil => simp [taiBodySame, takeTacs]
  | cons t r ih =>
    simp [taiBodySame, TaiV.toModel, hexDec_hexText, takeTacs, ih fun x hx => h x (by simp [hx]), TaiV.toOctets, h t (by simp)]

theorem taiBodyMixed_spec (l : List TaiV)
    (hp : ∀ t ∈ l, plmnIDToNas t.plmn.mccText t.plmn.mncText = .ok t.plmn.octets) :
    ∃ body, taiBodyMixed (l.map TaiV.toModel) = .ok body ∧ takeTais l.length body = some (l.map TaiV.toOctets) := by
  induction l with
  | nil => exact ⟨[], rfl, by simp [takeTais]⟩
  | cons t r ih =>
    obtain ⟨body, hb, ht⟩ := ih (fun x hx => hp x (by simp [hx]))
    have hp := hp t (by simp)
    refine ⟨t.plmn.octets ++ [t.a, t.b, t.c] ++ body, ?_, ?_⟩
    · simp [taiBodyMixed, TaiV.toModel, hp, hb, hexDec_hexText]
    · simp [Plmn.octets, takeTais, ht, TaiV.toOctets]

theorem tacsOf_spec (l : List (UInt8 × UInt8 × UInt8)) :
    tacsOf (l.map fun (a, b, c) => hexText [a, b, c]) = (l.flatMap fun (a, b, c) => [a, b, c], l.length) := by
  induction l with
  | nil => rfl
  | cons t r ih => obtain ⟨a, b, c⟩ := t; simp [tacsOf, ih, hexDec_hexText]

theorem takeTacs_flat (l : List (UInt8 × UInt8 × UInt8)) (pl : Bytes) :
    takeTacs l.length pl (l.flatMap fun (a, b, c) => [a, b, c]) = some (l.map fun (a, b, c) => ⟨pl, [a, b, c]⟩) := by
  induction l with
  | nil => simp [takeTacs]
  | cons t r ih => obtain ⟨a, b, c⟩ := t; simp [takeTacs, ih]

/-- octet 1 of a partial service area list as `PartialServiceAreaListToNas` writes it for `k + 1` TACs (at most 16, 9.11.3.49) -/
theorem sarea_header : ∀ k, k < 16 → ∀ allowed : Bool,
    let h : UInt8 := (((if allowed then 0 else 1 : UInt8) <<< 7) &&& 0x80) + (UInt8.ofNat k &&& 0x1f)
    (h >>> 5) &&& 3 = 0 ∧ (h &&& 0x1f).toNat + 1 = k + 1 ∧ decide (h >>> 7 = 1) = !allowed := by decide

theorem takeTacs_len {n : Nat} {p r : Bytes} {l : List TaiOctets} (h : takeTacs n p r = some l) : r.length = 3 * n := by
  fun_induction takeTacs n p r generalizing l with
  | case1 => rfl
  | case3 n p a b c r ih => obtain ⟨l', h', -⟩ := Option.map_eq_some_iff.mp h; have := ih h'; simp; omega
  | case2 | case4 => cases h

theorem takeTais_len {n : Nat} {r : Bytes} {l : List TaiOctets} (h : takeTais n r = some l) : r.length = 6 * n := by
  fun_induction takeTais n r generalizing l with
  | case1 => rfl
  | case3 n p q s a b c r ih => obtain ⟨l', h', -⟩ := Option.map_eq_some_iff.mp h; have := ih h'; simp; omega
  | case2 | case4 => cases h

/-- a partial tracking area identity list has at most 1 + 32 · 6 octets, so its length fits the length octet of an LADN -/
theorem decTaiList_len {w : Bytes} {l : List TaiOctets} (h : decTaiList w = some l) : w.length ≤ 193 := by
  match w with
  | [] => cases h
  | hd :: r =>
    have hn : (hd &&& 0x1f).toNat ≤ 31 := by rw [UInt8.toNat_and]; exact Nat.and_le_right
    simp only [decTaiList] at h
    split at h
    · cases h
    · split at h
      · split at h
        · have := takeTacs_len h; simp; omega
        · cases h
      · split at h
        · have := takeTais_len h; simp; omega
        · cases h

end NasVerif.Proofs.Lists

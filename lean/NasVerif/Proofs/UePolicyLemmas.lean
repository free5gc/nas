import NasVerif.Model.UePolicy
import NasVerif.Proofs.QosLemmas
import NasVerif.Proofs.IdentityLemmas
namespace NasVerif.Proofs.UePolicy
open NasVerif NasVerif.Model.Qos NasVerif.Model.UePolicy NasVerif.Proofs.Qos NasVerif.Spec.Identity NasVerif.Proofs.Identity

/-! The domains of the round-trip theorems of `Props/C18.lean` (`WF…`) and what a value decodes to (`norm…`: every length
recomputed from content, as the serialisers write it, and the MCC / MNC read from the PLMN octets). -/

def WFPart (p : Part) : Prop := (p.len = 0 ∨ p.len.toNat = 1 + p.content.length) ∧ 1 + p.content.length < 65536

def normPart (p : Part) : Part := { p with len := UInt16.ofNat (1 + p.content.length) }

def WFInstr (i : Instr) : Prop := (∀ p ∈ i.parts, WFPart p) ∧ (i.parts.flatMap marshalPart).length + 2 < 65536

def normInstr (i : Instr) : Instr :=
  { i with len := UInt16.ofNat ((i.parts.flatMap marshalPart).length + 2), parts := i.parts.map normPart }

def WFSubList (s : SubList) : Prop :=
  (∀ i ∈ s.instrs, WFInstr i) ∧ 3 + (s.instrs.flatMap marshalInstr).length < 65536 ∧ (plmnNumbers s.p1 s.p2 s.p3).isSome

/-- `getD (0, 0)`: `WFSubList` makes `plmnNumbers` a `some`; on any other sublist the numbers given here mean nothing (the parser
rejects its octets) -/
def normSubList (s : SubList) : SubList :=
  { s with len := UInt16.ofNat (3 + (s.instrs.flatMap marshalInstr).length),
           mcc := ((plmnNumbers s.p1 s.p2 s.p3).getD (0, 0)).1, mnc := ((plmnNumbers s.p1 s.p2 s.p3).getD (0, 0)).2,
           instrs := s.instrs.map normInstr }

def normRes (r : Res) : Res := { r with cause := 0x6f }

def WFSubResult (s : SubResult) : Prop :=
  3 + (s.results.flatMap marshalRes).length < 65536 ∧ (plmnNumbers s.p1 s.p2 s.p3).isSome

def normSubResult (s : SubResult) : SubResult :=
  { s with len := UInt16.ofNat (3 + (s.results.flatMap marshalRes).length),
           mcc := ((plmnNumbers s.p1 s.p2 s.p3).getD (0, 0)).1, mnc := ((plmnNumbers s.p1 s.p2 s.p3).getD (0, 0)).2,
           results := s.results.map normRes }

def plmnOfNumbers (mcc mnc : Nat) : Plmn :=
  if mnc < 100 then ⟨mcc / 100, mcc % 100 / 10, mcc % 10, mnc / 10, mnc % 10, none⟩
  else ⟨mcc / 100, mcc % 100 / 10, mcc % 10, mnc / 100, mnc % 100 / 10, some (mnc % 10)⟩

theorem eats_readBytes (k : Nat) : Eats k (readBytes k) := fun b => by
  unfold readBytes
  split
  · next h0 => subst h0; exact Nat.le_refl b.length
  · split
    · trivial
    · split
      · trivial
      · rw [Outcome.post_ok, List.length_drop]; omega

theorem partsLoop_eq : partsLoop = walk (endOnEof parsePart) :=
  loop_eq_walk (fun _ _ => rfl) fun n b a => by
    rw [partsLoop, endOnEof]; cases parsePart b with | err e => cases e <;> rfl | _ => rfl

theorem instrLoop_eq : instrLoop = walk (endOnEof parseInstr) :=
  loop_eq_walk (fun _ _ => rfl) fun n b a => by
    rw [instrLoop, endOnEof]; cases parseInstr b with | err e => cases e <;> rfl | _ => rfl

theorem subListLoop_eq : subListLoop = walk (endOnEof parseSubList) :=
  loop_eq_walk (fun _ _ => rfl) fun n b a => by
    rw [subListLoop, endOnEof]; cases parseSubList b with | err e => cases e <;> rfl | _ => rfl

theorem resLoop_eq : resLoop = walk (endOnEof parseRes) :=
  loop_eq_walk (fun _ _ => rfl) fun n b a => by
    rw [resLoop, endOnEof]; cases parseRes b with | err e => cases e <;> rfl | _ => rfl

theorem subResultLoop_eq : subResultLoop = walk (endOnEof parseSubResult) :=
  loop_eq_walk (fun _ _ => rfl) fun n b a => by
    rw [subResultLoop, endOnEof]; cases parseSubResult b with | err e => cases e <;> rfl | _ => rfl

theorem eats_parsePart : Eats 3 parsePart := fun b =>
  (eats_readU16 b).bind fun (_, r1) _ h1 => (eats_readU8 r1).bind fun (_, r2) _ h2 =>
  (eats_readBytes _ r2).bind fun (_, r3) _ h3 => by
    simp only [Outcome.pure_eq, Outcome.post_ok] at *
    omega

theorem eats_parseInstr : Eats 4 parseInstr := fun b =>
  (eats_readU16 b).bind fun (len, r1) _ h1 => (eats_readU16 r1).bind fun (_, r2) _ h2 => by
    dsimp only
    split
    · trivial
    · rw [partsLoop_eq]
      refine (walk_eof_total eats_parsePart _).post.bind fun _ _ _ => ?_
      simp only [Outcome.pure_eq, Outcome.post_ok, List.length_drop] at *
      omega

theorem post_parseSubHead (b : Bytes) :
    (parseSubHead b).Post fun (_, _, _, _, _, _, _, rest) => rest.length + 5 ≤ b.length := by
  unfold parseSubHead
  refine (eats_readU16 b).bind fun (len, r1) _ h1 => (eats_readU8 r1).bind fun (p1, r2) _ h2 => ?_
  dsimp only
  split
  · trivial
  · refine (eats_readU8 r2).bind fun (p2, r3) _ h3 => ?_
    dsimp only
    split
    · trivial
    · refine (eats_readU8 r3).bind fun (p3, r4) _ h4 => ?_
      dsimp only
      split
      · trivial
      · simp only [Outcome.pure_eq, Outcome.post_ok, List.length_drop] at *
        omega

theorem eats_parseSubList : Eats 5 parseSubList := fun b =>
  (post_parseSubHead b).bind fun (_, _, _, _, _, _, body, rest) _ h => by
    dsimp only
    rw [instrLoop_eq]
    exact (walk_eof_total eats_parseInstr _).post.bind fun _ _ _ => h

theorem eats_parseRes : Eats 5 parseRes := fun b =>
  (eats_readU16 b).bind fun (_, r1) _ h1 => (eats_readU16 r1).bind fun (_, r2) _ h2 =>
  (eats_readU8 r2).bind fun (_, r3) _ h3 => by
    simp only [Outcome.pure_eq, Outcome.post_ok] at *
    omega

theorem eats_parseSubResult : Eats 5 parseSubResult := fun b =>
  (post_parseSubHead b).bind fun (_, _, _, _, _, _, body, rest) _ h => by
    dsimp only
    rw [resLoop_eq]
    exact (walk_eof_total eats_parseRes _).post.bind fun _ _ _ => h

@[np_simp] theorem np_readIe (b : Bytes) : NoPanic (readIe b) :=
  Outcome.Post.noPanic (P := fun _ => True) <|
    (eats_readU8 b).bind fun (_, r1) _ _ => (eats_readU16 r1).bind fun (_, r2) _ _ =>
    (eats_readBytes _ r2).bind fun _ _ _ => trivial

theorem digits3 (n : Nat) (h : n ≤ 999) :
    n / 100 < 10 ∧ n % 100 / 10 < 10 ∧ n % 10 < 10 ∧ n / 100 * 100 + n % 100 / 10 * 10 + n % 10 = n := by omega

theorem digits2 (n : Nat) (h : n < 100) : n / 10 < 10 ∧ n % 10 < 10 ∧ n / 10 * 10 + n % 10 = n := by omega

theorem oct_nibbles {hi lo : Nat} (h1 : hi < 16) (h2 : lo < 16) :
    (oct hi lo &&& 0x0f).toNat = lo ∧ ((oct hi lo &&& 0xf0) >>> 4).toNat = hi := by
  rw [oct_and_0f hi h1 lo h2, oct_hi4 hi h1 lo h2]
  exact ⟨UInt8.toNat_ofNat_of_lt' (Nat.lt_trans h2 (by decide)), UInt8.toNat_ofNat_of_lt' (Nat.lt_trans h1 (by decide))⟩

/-- TS 24.008 10.5.1.13: `e3 = 15` is the filler of a two-digit MNC -/
theorem plmnNumbers_oct {d1 d2 d3 e1 e2 e3 : Nat} (h1 : d1 < 10) (h2 : d2 < 10) (h3 : d3 < 10) (k1 : e1 < 10) (k2 : e2 < 10)
    (k3 : e3 < 10 ∨ e3 = 15) :
    plmnNumbers (oct d2 d1) (oct e3 d3) (oct e2 e1) =
      some (d1 * 100 + d2 * 10 + d3, if e3 = 15 then e1 * 10 + e2 else e1 * 100 + e2 * 10 + e3) := by
  have n1 := oct_nibbles (hi := d2) (lo := d1) (by omega) (by omega)
  have n2 := oct_nibbles (hi := e3) (lo := d3) (by omega) (by omega)
  have n3 := oct_nibbles (hi := e2) (lo := e1) (by omega) (by omega)
  simp only [plmnNumbers, n1.1, n1.2, n2.1, n2.2, n3.1, n3.2]
  rw [if_neg (by omega)]

/-- `Len-1`, `Len-3` computed in `uint16` do not wrap on a `Len` the serialiser wrote -/
theorem u16_sub (k n : Nat) (h : k + n < 65536) : (UInt16.ofNat (k + n) - UInt16.ofNat k).toNat = n := by
  have hk : (UInt16.ofNat k).toNat = k := UInt16.toNat_ofNat_of_lt' (Nat.lt_of_le_of_lt (Nat.le_add_right k n) h)
  have : UInt16.ofNat k ≤ UInt16.ofNat (k + n) := by
    apply UInt16.le_iff_toNat_le.mpr; rw [UInt16.toNat_ofNat_of_lt' h, hk]; omega
  rw [UInt16.toNat_sub_of_le _ _ this, UInt16.toNat_ofNat_of_lt' h, hk]; omega

theorem readBytes_append (a rest : Bytes) : readBytes a.length (a ++ rest) = .ok (a, rest) := by
  cases a with
  | nil => rfl
  | cons x xs => simp [readBytes]

theorem marshalPart_eq (p : Part) (hw : WFPart p) :
    marshalPart p = be16 (UInt16.ofNat (1 + p.content.length)) ++ p.typ :: p.content := by
  unfold marshalPart
  obtain ⟨h0 | hl, h2⟩ := hw
  · simp [h0]
  · have : UInt16.ofNat (1 + p.content.length) = p.len := UInt16.toNat_inj.mp (by rw [hl]; simp; omega)
    simp [this]

theorem marshalPart_norm {p : Part} (hw : WFPart p) : marshalPart (normPart p) = marshalPart p := by
  rw [marshalPart_eq p hw, marshalPart_eq (normPart p) ⟨.inr (UInt16.toNat_ofNat_of_lt' hw.2), hw.2⟩]; rfl

theorem parsePart_marshal (p : Part) (hw : WFPart p) (rest : Bytes) :
    parsePart (marshalPart p ++ rest) = .ok (normPart p, rest) := by
  have hlen : (UInt16.ofNat (1 + p.content.length) - 1).toNat = p.content.length := u16_sub 1 _ hw.2
  rw [marshalPart_eq p hw]
  unfold parsePart
  simp only [List.append_assoc, readU16_be16, Outcome.bind_ok, List.cons_append, readU8, hlen, readBytes_append,
    Outcome.pure_eq, normPart]

theorem parts_roundtrip (ps : List Part) (hw : ∀ p ∈ ps, WFPart p) :
    partsLoop ((ps.flatMap marshalPart).length + 1) (ps.flatMap marshalPart) [] = .ok (ps.map normPart) := by
  rw [partsLoop_eq]
  exact walk_eof_flatMap marshalPart normPart rfl ps fun p hp => parsePart_marshal p (hw p hp)

theorem marshalParts_norm {ps : List Part} (hw : ∀ p ∈ ps, WFPart p) :
    (ps.map normPart).flatMap marshalPart = ps.flatMap marshalPart := by
  simpa using flatMap_map_congr (g := id) marshalPart fun p hp => marshalPart_norm (hw p hp)

theorem parseInstr_marshal (i : Instr) (hw : WFInstr i) (rest : Bytes) :
    parseInstr (marshalInstr i ++ rest) = .ok (normInstr i, rest) := by
  obtain ⟨hp, hl⟩ := hw
  have hlen := UInt16.toNat_ofNat_of_lt' hl
  have hge : ¬ UInt16.ofNat ((i.parts.flatMap marshalPart).length + 2) < 2 := by
    intro h; have := UInt16.lt_iff_toNat_lt.mp h; rw [hlen] at this
    have h2 : (2 : UInt16).toNat = 2 := rfl
    omega
  unfold parseInstr marshalInstr
  simp only [List.append_assoc, readU16_be16, Outcome.bind_ok, hge, if_false, hlen, Nat.add_sub_cancel, List.take_left,
    List.drop_left, parts_roundtrip i.parts hp, Outcome.pure_eq, normInstr]

theorem instrs_roundtrip (is : List Instr) (hw : ∀ i ∈ is, WFInstr i) :
    instrLoop ((is.flatMap marshalInstr).length + 1) (is.flatMap marshalInstr) [] = .ok (is.map normInstr) := by
  rw [instrLoop_eq]
  exact walk_eof_flatMap marshalInstr normInstr rfl is fun i hi => parseInstr_marshal i (hw i hi)

theorem marshalInstr_norm {i : Instr} (hw : WFInstr i) : marshalInstr (normInstr i) = marshalInstr i := by
  simp only [marshalInstr, normInstr, marshalParts_norm hw.1]

theorem plmnNumbers_checks {p1 p2 p3 : UInt8} {v : Nat × Nat} (h : plmnNumbers p1 p2 p3 = some v) :
    ¬ ((p1 &&& 0x0f) > 9 ∨ ((p1 &&& 0xf0) >>> 4) > 9) ∧
    ¬ ((p2 &&& 0x0f) > 9 ∨ (((p2 &&& 0xf0) >>> 4) > 9 ∧ ((p2 &&& 0xf0) >>> 4) ≠ 15)) := by
  unfold plmnNumbers at h
  simp only at h
  split at h
  · cases h
  · simp only [gt_iff_lt, UInt8.lt_iff_toNat_lt, ne_eq, ← UInt8.toNat_inj, UInt8.toNat_ofNat]
    omega

theorem parseSubHead_marshal {p1 p2 p3 : UInt8} {v : Nat × Nat} (hv : plmnNumbers p1 p2 p3 = some v) (body rest : Bytes)
    (hl : 3 + body.length < 65536) :
    parseSubHead (be16 (UInt16.ofNat (3 + body.length)) ++ p1 :: p2 :: p3 :: body ++ rest) =
      .ok (UInt16.ofNat (3 + body.length), p1, p2, p3, v.1, v.2, body, rest) := by
  obtain ⟨c1, c2⟩ := plmnNumbers_checks hv
  have hlen : (UInt16.ofNat (3 + body.length) - 3).toNat = body.length := u16_sub 3 _ hl
  unfold parseSubHead
  simp only [List.append_assoc, readU16_be16, Outcome.bind_ok, List.cons_append, readU8, c1, c2, if_false, hv, hlen,
    Outcome.pure_eq, List.take_left, List.drop_left]

theorem parseSubList_marshal (s : SubList) (hw : WFSubList s) (rest : Bytes) :
    parseSubList (marshalSubList s ++ rest) = .ok (normSubList s, rest) := by
  obtain ⟨hi, hl, hp⟩ := hw
  obtain ⟨v, hv⟩ := Option.isSome_iff_exists.mp hp
  unfold parseSubList marshalSubList
  simp only [Nat.reduceAdd, parseSubHead_marshal hv _ rest hl, Outcome.bind_ok, instrs_roundtrip s.instrs hi, Outcome.pure_eq,
    normSubList, hv, Option.getD_some]

theorem parseRes_marshal (r : Res) (rest : Bytes) : parseRes (marshalRes r ++ rest) = .ok (normRes r, rest) := by
  unfold parseRes marshalRes
  simp only [List.append_assoc, readU16_be16, Outcome.bind_ok, List.cons_append, List.nil_append, readU8, Outcome.pure_eq, normRes]

theorem res_roundtrip (rs : List Res) :
    resLoop ((rs.flatMap marshalRes).length + 1) (rs.flatMap marshalRes) [] = .ok (rs.map normRes) := by
  rw [resLoop_eq]
  exact walk_eof_flatMap marshalRes normRes rfl rs fun r _ => parseRes_marshal r

theorem parseSubResult_marshal (s : SubResult) (hw : WFSubResult s) (rest : Bytes) :
    parseSubResult (marshalSubResult s ++ rest) = .ok (normSubResult s, rest) := by
  obtain ⟨hl, hp⟩ := hw
  obtain ⟨v, hv⟩ := Option.isSome_iff_exists.mp hp
  unfold parseSubResult marshalSubResult
  simp only [Nat.reduceAdd, parseSubHead_marshal hv _ rest hl, Outcome.bind_ok, res_roundtrip, Outcome.pure_eq, normSubResult, hv,
    Option.getD_some]

theorem readIe_marshal (iei : UInt8) (buf rest : Bytes) (h : buf.length < 65536) :
    readIe (iei :: (be16 (UInt16.ofNat buf.length) ++ buf ++ rest)) = .ok (iei, UInt16.ofNat buf.length, buf, rest) := by
  unfold readIe
  simp only [List.append_assoc, readU8, Outcome.bind_ok, readU16_be16, UInt16.toNat_ofNat_of_lt' h, readBytes_append, Outcome.pure_eq]

end NasVerif.Proofs.UePolicy

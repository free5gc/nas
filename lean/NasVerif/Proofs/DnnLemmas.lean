import NasVerif.Model.Convert
import NasVerif.Proofs.Outcome
namespace NasVerif.Proofs.Dnn
open NasVerif.Model.Convert

theorem splitDot_flat (s cur : Bytes) : (splitDot s cur).flatMap (fun g => g ++ [dot]) = cur ++ s ++ [dot] := by
  induction s generalizing cur with
  | nil => simp [splitDot]
  | cons c r ih =>
    unfold splitDot
    split
    · next h => subst h; simp [ih]
    · simp [ih]

theorem splitDot_ne_nil (s cur : Bytes) : splitDot s cur ≠ [] := by
  induction s generalizing cur with
  | nil => simp [splitDot]
  | cons c r ih => unfold splitDot; split <;> simp [ih]

/-- the fuel bound is on the coded form, which is how `getDNN` supplies it (`buf.length + 1`) -/
theorem dnnLoop_labels (segs : List Bytes) (h : ∀ g ∈ segs, g.length ≤ 62) (fuel : Nat)
    (hf : (segs.flatMap fun g => UInt8.ofNat g.length :: g).length < fuel) (acc : Bytes) :
    dnnLoop fuel (segs.flatMap fun g => UInt8.ofNat g.length :: g) acc = .ok (acc ++ segs.flatMap (fun g => g ++ [dot])) := by
  induction segs generalizing fuel acc with
  | nil =>
    cases fuel with
    | zero => omega
    | succ n => simp [dnnLoop]
  | cons g r ih =>
    cases fuel with
    | zero => omega
    | succ n =>
      have hg : g.length ≤ 62 := h g (by simp)
      have hl := UInt8.toNat_ofNat_of_lt' (show g.length < 256 by omega)
      simp only [List.flatMap_cons, List.cons_append, dnnLoop, hl, List.take_left', List.drop_left']
      rw [ih (fun x hx => h x (by simp [hx])) n
        (by simp only [List.flatMap_cons, List.length_append, List.length_cons] at hf; omega)]
      simp

end NasVerif.Proofs.Dnn

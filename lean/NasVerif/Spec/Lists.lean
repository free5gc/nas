import NasVerif.Spec.Identity
import NasVerif.Model.Convert
/-!
# Slice and area lists — decoders written from TS 24.501 9.11.2.8, 9.11.3.37, 9.11.3.46, 9.11.3.9, 9.11.3.49, 9.11.3.29/30

These are the "independent decoder written from the specification" of property C13: they read the octet layouts of the
figures and know nothing about how the library produces them. Values reuse the plain records of the model
(`Snssai`, `MappedSnssai`) because those are just the fields of the 3GPP elements.
-/
namespace NasVerif.Spec.Lists
open NasVerif NasVerif.Model.Convert

/-- one S-NSSAI in length-value form (9.11.2.8, Table 9.11.2.8.1): length 1 = SST; 2 = SST + mapped SST; 4 = SST + SD;
5 = SST + SD + mapped SST; 8 = SST + SD + mapped SST + mapped SD; all other lengths are reserved -/
def decSnssaiLV : Bytes → Option (MappedSnssai × Bytes)
  | 1 :: s :: r => some (⟨⟨s, none⟩, none⟩, r)
  | 2 :: s :: h :: r => some (⟨⟨s, none⟩, some ⟨h, none⟩⟩, r)
  | 4 :: s :: a :: b :: c :: r => some (⟨⟨s, some [a, b, c]⟩, none⟩, r)
  | 5 :: s :: a :: b :: c :: h :: r => some (⟨⟨s, some [a, b, c]⟩, some ⟨h, none⟩⟩, r)
  | 8 :: s :: a :: b :: c :: h :: x :: y :: z :: r => some (⟨⟨s, some [a, b, c]⟩, some ⟨h, some [x, y, z]⟩⟩, r)
  | _ => none

theorem decSnssaiLV_none {l : UInt8} {rest : Bytes} (h1 : l ≠ 1) (h2 : l ≠ 2) (h4 : l ≠ 4) (h5 : l ≠ 5) (h8 : l ≠ 8) :
    decSnssaiLV (l :: rest) = none := by
  unfold decSnssaiLV
  split
  -- each of the five shapes fixes `l`, against the hypotheses; the last clause is the claim
  case h_6 => rfl
  all_goals (rename_i h; cases h; contradiction)

theorem decSnssaiLV_drop {l : UInt8} {rest r : Bytes} {m : MappedSnssai} (h : decSnssaiLV (l :: rest) = some (m, r)) :
    r = rest.drop l.toNat ∧ l.toNat ≤ rest.length ∧ (l = 1 ∨ l = 2 ∨ l = 4 ∨ l = 5 ∨ l = 8) := by
  unfold decSnssaiLV at h
  split at h
  case h_6 => cases h
  all_goals (rename_i heq; cases heq; cases h; simp)

theorem decSnssaiLV_shorter {bs r : Bytes} {m : MappedSnssai} (h : decSnssaiLV bs = some (m, r)) : r.length < bs.length := by
  cases bs with
  | nil => cases h
  | cons l rest => obtain ⟨hr, hle, -⟩ := decSnssaiLV_drop h; rw [hr]; simp; omega

/-- NSSAI value (9.11.3.37): a sequence of S-NSSAI length-value elements filling the contents exactly -/
def decNssai : Nat → Bytes → Option (List MappedSnssai)
  | _, [] => some []
  | 0, _ :: _ => none
  | fuel + 1, b :: bs =>
    match decSnssaiLV (b :: bs) with
    | some (m, r) => (decNssai fuel r).map (m :: ·)
    | none => none

theorem decNssai_succ {n : Nat} {bs r : Bytes} {m : MappedSnssai} (h : decSnssaiLV bs = some (m, r)) :
    decNssai (n + 1) bs = (decNssai n r).map (m :: ·) := by
  cases bs with
  | nil => cases h
  | cons b bs => simp only [decNssai, h]

/-- one rejected S-NSSAI (9.11.3.46): octet 1 = length (bits 8..5) | cause (bits 4..1); length 1 = SST, 4 = SST + SD -/
def decRejected : Nat → Bytes → Option (List (Snssai × UInt8))
  | _, [] => some []
  | 0, _ :: _ => none
  | fuel + 1, o :: r =>
    if o >>> 4 = 1 then
      match r with
      | s :: r' => (decRejected fuel r').map ((⟨s, none⟩, o &&& 0x0f) :: ·)
      | _ => none
    else if o >>> 4 = 4 then
      match r with
      | s :: a :: b :: c :: r' => (decRejected fuel r').map ((⟨s, some [a, b, c]⟩, o &&& 0x0f) :: ·)
      | _ => none
    else none

/-- a tracking area identity: three PLMN octets (TS 24.008 10.5.1.13) and a three-octet TAC -/
structure TaiOctets where
  plmn : Bytes
  tac  : Bytes
deriving DecidableEq, Repr

def takeTacs : Nat → Bytes → Bytes → Option (List TaiOctets)
  | 0, _, [] => some []
  | 0, _, _ :: _ => none
  | n + 1, plmn, a :: b :: c :: r => (takeTacs n plmn r).map (⟨plmn, [a, b, c]⟩ :: ·)
  | _ + 1, _, _ => none

def takeTais : Nat → Bytes → Option (List TaiOctets)
  | 0, [] => some []
  | 0, _ :: _ => none
  | n + 1, p :: q :: s :: a :: b :: c :: r => (takeTais n r).map (⟨[p, q, s], [a, b, c]⟩ :: ·)
  | _ + 1, _ => none

/-- one partial tracking area identity list (9.11.3.9, Figures 9.11.3.9.2 / .4): octet 1 = 0 | type of list (bits 7..6) |
number of elements (bits 5..1, coded as number − 1); type 00: one PLMN, then the TACs; type 10: (PLMN, TAC) per element -/
def decTaiList : Bytes → Option (List TaiOctets)
  | [] => none
  | h :: r =>
    let n := (h &&& 0x1f).toNat + 1
    if h >>> 7 ≠ 0 then none
    else if (h >>> 5) &&& 3 = 0 then
      match r with
      | p :: q :: s :: r' => takeTacs n [p, q, s] r'
      | _ => none
    else if (h >>> 5) &&& 3 = 2 then takeTais n r
    else none

/-- one partial service area list of type 00 (9.11.3.49): octet 1 = allowed type (bit 8) | type of list (bits 7..6) |
number of elements − 1; then one PLMN and the TACs. Result: (allowed type bit, elements) -/
def decServiceArea : Bytes → Option (Bool × List TaiOctets)
  | h :: p :: q :: s :: r =>
    if (h >>> 5) &&& 3 = 0 then (takeTacs ((h &&& 0x1f).toNat + 1) [p, q, s] r).map (fun l => (h >>> 7 = 1, l)) else none
  | _ => none

/-- LADN indication contents (9.11.3.29): a sequence of (length, DNN value) filling the contents exactly -/
def decLadnInd : Nat → Bytes → Option (List Bytes)
  | _, [] => some []
  | 0, _ :: _ => none
  | fuel + 1, l :: r => if l.toNat ≤ r.length then (decLadnInd fuel (r.drop l.toNat)).map (r.take l.toNat :: ·) else none

/-- one LADN of the LADN information element (9.11.3.30): length of DNN, DNN, then a 5GS tracking area identity list
element (length, contents) -/
def decLadn : Bytes → Option (Bytes × List TaiOctets)
  | [] => none
  | l :: r =>
    if l.toNat + 1 ≤ r.length then
      match r.drop l.toNat with
      | tl :: t => if tl.toNat = t.length then (decTaiList t).map (fun x => (r.take l.toNat, x)) else none
      | [] => none
    else none

end NasVerif.Spec.Lists

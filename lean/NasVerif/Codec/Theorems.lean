import NasVerif.Codec.SlotLemmas
/-!
# Generic codec theorems (for every message table that passes the decidable `MsgDef.wf`)

Each clause of `decMan`, `decLoop`, `decode` is restated once as a bind (`decMan_cons`, `decLoop_cons`, `decode_eq`); a fact
about one element is then carried to the mandatory prefix, the loop and the message by `Outcome.Post.bind` along the clause.
-/
namespace NasVerif.Codec
open Outcome

/-- The two ranges mirror `tmpIei`: an octet from 0x80 up is looked up under its high nibble (8..15), a smaller one under
itself. So a type-1 element is found under 8..15, and a full-octet identifier, being at least 16, is only ever matched by an octet
below 0x80, for which `tmpIei` is the identity (`tmpIei_eq_iff`). No theorem needs the first range: `OptValOK` asks for
`tmpIei b = d.iei` outright. -/
def OptSlot.wf (d : OptSlot) : Bool :=
  if d.half then decide (8 ≤ d.iei ∧ d.iei ≤ 15)
  else decide (16 ≤ d.iei ∧ d.iei < 128) && d.hasIei && d.slot.wf

def OptValOK (d : OptSlot) (v : IEVal) : Prop :=
  if d.half then
    v.iei = 0 ∧ v.len = 0 ∧ (match v.data with | [b] => tmpIei b = d.iei | _ => False)
  else v.iei.toNat = d.iei ∧ ValOK d.slot v

instance (d : OptSlot) (v : IEVal) : Decidable (OptValOK d v) := by
  unfold OptValOK
  split
  · match v.data with
    | [] => exact inferInstance
    | [_] => exact inferInstance
    | _ :: _ :: _ => exact inferInstance
  · exact inferInstance

theorem tmpIei_eq_iff (b : UInt8) {t : Nat} (ht : 16 ≤ t ∧ t < 128) : tmpIei b = t ↔ b.toNat = t := by
  unfold tmpIei; have := b.toNat_lt; split <;> omega

theorem tmpIei_lt (b : UInt8) : tmpIei b < 128 := by
  unfold tmpIei; have := b.toNat_lt; split <;> omega

theorem OptSlot.wf_full {d : OptSlot} (hd : d.wf = true) (hh : ¬ d.half = true) :
    (16 ≤ d.iei ∧ d.iei < 128) ∧ d.hasIei = true ∧ d.slot.wf = true := by
  simpa [OptSlot.wf, hh, and_assoc] using hd

theorem decOpt_encOne (d : OptSlot) (hd : d.wf = true) (v : IEVal) (hv : OptValOK d v) :
    ∃ b0 bt, encOne d v = .ok (b0 :: bt) ∧ tmpIei b0 = d.iei ∧
      ∀ rest, decOpt d b0 (bt ++ rest) = .ok (v, rest) := by
  unfold OptValOK at hv
  by_cases hh : d.half = true
  · rw [if_pos hh] at hv
    obtain ⟨iei, len, data⟩ := v
    obtain ⟨rfl, rfl, hm⟩ : iei = 0 ∧ len = 0 ∧ _ := hv
    match data, hm with
    | [b], hm => exact ⟨b, [], by simp [encOne, hh], hm, fun rest => by simp [decOpt, hh]⟩
  · rw [if_neg hh] at hv
    obtain ⟨hrange, hhas, hswf⟩ := OptSlot.wf_full hd hh
    obtain ⟨b, hb, hdec⟩ := decBody_encBody d.slot hswf v hv.2
    exact ⟨v.iei, b, by simp [encOne, hh, hb, hhas], (tmpIei_eq_iff _ hrange).2 hv.1,
      fun rest => by simp [decOpt, hh, hhas, hdec]⟩

theorem decOpt_post (d : OptSlot) (hd : d.wf = true) (b : UInt8) (ht : tmpIei b = d.iei) (rest : Bytes) :
    (decOpt d b rest).Post fun p => OptValOK d p.1 := by
  unfold decOpt OptValOK
  by_cases hh : d.half = true
  · simp [hh, ht]
  · obtain ⟨hrange, hhas, hswf⟩ := OptSlot.wf_full hd hh
    simp only [hh, hhas, if_true]
    exact (decBody_post d.slot hswf b rest).mono fun p ⟨hvok, hiei, _⟩ => ⟨hiei ▸ (tmpIei_eq_iff b hrange).1 ht, hvok⟩

theorem decOpt_length {d : OptSlot} {b : UInt8} {rest : Bytes} {v : IEVal} {rest' : Bytes}
    (h : decOpt d b rest = .ok (v, rest')) : rest'.length ≤ rest.length := by
  unfold decOpt at h
  split at h
  · simp at h; rw [h.2]; exact Nat.le_refl _
  · obtain ⟨_, _, b, _, rfl⟩ := encBody_decBody h  -- `rest = b ++ rest'`
    simp

def WFMan : List Slot → List IEVal → Prop
  | [], [] => True
  | s :: ss, v :: vs => (v.iei = 0 ∧ ValOK s v) ∧ WFMan ss vs
  | _, _ => False

def WFSlots : List OptSlot → Slots → Prop
  | [], [] => True
  | d :: ds, v :: vs => (∀ x, v = some x → OptValOK d x) ∧ WFSlots ds vs
  | _, _ => False

instance instDecWFMan : (ss : List Slot) → (vs : List IEVal) → Decidable (WFMan ss vs)
  | [], [] => isTrue trivial
  | [], _ :: _ => isFalse (by simp [WFMan])
  | _ :: _, [] => isFalse (by simp [WFMan])
  | s :: ss, v :: vs =>
    have := instDecWFMan ss vs
    by unfold WFMan; exact inferInstance

instance instDecWFSlots : (ds : List OptSlot) → (vs : Slots) → Decidable (WFSlots ds vs)
  | [], [] => isTrue trivial
  | [], _ :: _ => isFalse (by simp [WFSlots])
  | _ :: _, [] => isFalse (by simp [WFSlots])
  | d :: ds, v :: vs =>
    have := instDecWFSlots ds vs
    match v with
    | none => by unfold WFSlots; simp; exact inferInstance
    | some x => by unfold WFSlots; simp; exact inferInstance

def MsgDef.wf (d : MsgDef) : Bool :=
  d.man.all Slot.wf && d.opt.all OptSlot.wf && decide ((d.opt.map (·.iei)).Nodup)

def WFVal (d : MsgDef) (m : MsgVal) : Prop := WFMan d.man m.man ∧ WFSlots d.opt m.opt

instance (d : MsgDef) (m : MsgVal) : Decidable (WFVal d m) := by unfold WFVal; exact inferInstance

theorem MsgDef.wf_iff (d : MsgDef) : d.wf = true ↔
    d.man.all Slot.wf = true ∧ d.opt.all OptSlot.wf = true ∧ (d.opt.map (·.iei)).Nodup := by
  simp only [MsgDef.wf, Bool.and_eq_true, decide_eq_true_eq, and_assoc]

theorem decMan_cons (s : Slot) (ss : List Slot) (bs : Bytes) :
    decMan (s :: ss) bs = decBody s 0 bs >>= fun p => decMan ss p.2 >>= fun q => pure (p.1 :: q.1, q.2) := by
  rw [decMan]
  cases decBody s 0 bs with
  | ok p => obtain ⟨v, r⟩ := p; simp only [bind_ok]; cases decMan ss r <;> rfl
  | _ => rfl

theorem decMan_encMan (ss : List Slot) (hs : ss.all Slot.wf = true) (vs : List IEVal) (hv : WFMan ss vs) :
    ∃ b, encMan ss vs = .ok b ∧ ∀ rest, decMan ss (b ++ rest) = .ok (vs, rest) := by
  induction ss, vs using WFMan.induct with
  | case1 => exact ⟨[], rfl, fun rest => rfl⟩
  | case2 s ss v vs ih =>
    simp only [List.all_cons, Bool.and_eq_true] at hs
    obtain ⟨⟨hi, hvok⟩, hrest⟩ := hv
    obtain ⟨b, hb, hdec⟩ := decBody_encBody s hs.1 v hvok
    obtain ⟨bs, hbs, hdec'⟩ := ih hs.2 hrest
    refine ⟨b ++ bs, by simp [encMan, hb, hbs], fun rest => ?_⟩
    rw [hi] at hdec
    rw [decMan_cons, List.append_assoc, hdec, bind_ok, hdec']; rfl
  | case3 => simp [WFMan] at hv

theorem decMan_post (ss : List Slot) (hs : ss.all Slot.wf = true) (bs : Bytes) :
    (decMan ss bs).Post fun p => WFMan ss p.1 ∧ ∃ b, encMan ss p.1 = .ok b ∧ bs = b ++ p.2 := by
  induction ss generalizing bs with
  | nil => simp [decMan, WFMan, encMan]
  | cons s ss ih =>
    simp only [List.all_cons, Bool.and_eq_true] at hs
    rw [decMan_cons]
    refine (decBody_post s hs.1 0 bs).bind fun p _ ⟨hv, hi, b, hb, hbs⟩ => ?_
    refine (ih hs.2 p.2).bind fun q _ ⟨hw, b', hb', hbs'⟩ => ?_
    exact ⟨⟨⟨hi, hv⟩, hw⟩, b ++ b', by simp [encMan, hb, hb'], by simp [hbs, hbs']⟩

theorem findSlot_mid (pre : List OptSlot) (d : OptSlot) (post : List OptSlot) (k : Nat)
    (hnd : ((pre ++ d :: post).map (·.iei)).Nodup) :
    findSlot (pre ++ d :: post) d.iei k = some (k + pre.length, d) := by
  induction pre generalizing k with
  | nil => simp [findSlot]
  | cons x xs ih =>
    simp only [List.cons_append, List.map_cons, List.nodup_cons] at hnd
    have hne : x.iei ≠ d.iei := fun h => hnd.1 (h ▸ List.mem_map_of_mem (by simp))
    simp only [List.cons_append, findSlot, hne, if_false]
    rw [ih (k+1) hnd.2]
    simp; omega

theorem findSlot_sound (ds : List OptSlot) (t k i : Nat) (d : OptSlot) (h : findSlot ds t k = some (i, d)) :
    k ≤ i ∧ ds[i - k]? = some d ∧ d.iei = t := by
  induction ds generalizing k with
  | nil => simp [findSlot] at h
  | cons x xs ih =>
    simp only [findSlot] at h
    split at h
    · simp at h; obtain ⟨rfl, rfl⟩ := h; simp_all
    · obtain ⟨h1, h2, h3⟩ := ih (k+1) h
      refine ⟨by omega, ?_, h3⟩
      have : i - k = (i - (k+1)) + 1 := by omega
      rw [this]; simpa using h2

theorem findSlot_zero {ds : List OptSlot} {t i : Nat} {d : OptSlot} (h : findSlot ds t 0 = some (i, d)) :
    ds[i]? = some d ∧ d ∈ ds ∧ d.iei = t := by
  obtain ⟨_, hget, hiei⟩ := findSlot_sound ds t 0 i d h
  exact ⟨hget, List.mem_of_getElem? hget, hiei⟩

theorem set_mid (vpre : Slots) (n : Nat) (x : IEVal) :
    (vpre ++ none :: List.replicate n none).set vpre.length (some x) = vpre ++ some x :: List.replicate n none := by
  rw [List.set_append_right _ _ (Nat.le_refl _), Nat.sub_self, List.set_cons_zero]

theorem decLoop_cons (defs : List OptSlot) (fuel : Nat) (b : UInt8) (rest : Bytes) (s : Slots) :
    decLoop defs (fuel + 1) (b :: rest) s =
      match findSlot defs (tmpIei b) 0 with
      | none => decLoop defs fuel rest s
      | some (i, d) => decOpt d b rest >>= fun p => decLoop defs fuel p.2 (s.set i (some p.1)) := by
  rw [decLoop]
  cases findSlot defs (tmpIei b) 0 with
  | none => rfl
  | some p => obtain ⟨i, d⟩ := p; dsimp only; cases decOpt d b rest <;> rfl

theorem decLoop_fuel_irrel (defs : List OptSlot) (f1 f2 : Nat) (bs : Bytes) (s : Slots) (h1 : bs.length ≤ f1)
    (h2 : bs.length ≤ f2) : decLoop defs f1 bs s = decLoop defs f2 bs s := by
  induction f1 generalizing f2 bs s with
  | zero =>
    have : bs = [] := List.eq_nil_of_length_eq_zero (by omega)
    subst this; cases f2 <;> rfl
  | succ f1 ih =>
    cases bs with
    | nil => cases f2 <;> rfl
    | cons b rest =>
      cases f2 with
      | zero => simp at h2
      | succ f2 =>
        simp only [List.length_cons, Nat.add_le_add_iff_right] at h1 h2
        rw [decLoop_cons, decLoop_cons]
        split
        next => exact ih _ _ _ h1 h2
        next i d _ =>
          cases hdec : decOpt d b rest with
          | ok p =>
            have := decOpt_length (v := p.1) (rest' := p.2) hdec
            simp only [bind_ok]
            exact ih _ _ _ (by omega) (by omega)
          | err e => rfl
          | panic => rfl

/-- by induction from the end of the table: `vpre` stands for what the elements before the suffix `post` have set -/
theorem decLoop_encOpts_suffix (defs : List OptSlot) (hnd : (defs.map (·.iei)).Nodup) (post : List OptSlot) (vpost : Slots)
    (hwf : WFSlots post vpost) (hok : post.all OptSlot.wf = true) (pre : List OptSlot) (vpre : Slots)
    (hd : defs = pre ++ post) (hl : vpre.length = pre.length) :
    ∃ b, encOpts post vpost = .ok b ∧
      decLoop defs b.length b (vpre ++ List.replicate post.length none) = .ok (vpre ++ vpost) := by
  induction post, vpost using WFSlots.induct generalizing pre vpre with
  | case1 => exact ⟨[], rfl, by simp [decLoop]⟩
  | case2 d post v vpost ih =>
    obtain ⟨hv, hwf'⟩ := hwf
    simp only [List.all_cons, Bool.and_eq_true] at hok
    obtain ⟨b, hb, hdec⟩ := ih hwf' hok.2 (pre ++ [d]) (vpre ++ [v]) (by simp [hd]) (by simp [hl])
    simp only [List.append_assoc, List.singleton_append] at hdec
    cases v with
    | none => exact ⟨b, by simpa [encOpts] using hb, by simpa [List.replicate_succ] using hdec⟩
    | some x =>
      obtain ⟨b0, bt, henc, htmp, hdec1⟩ := decOpt_encOne d hok.1 x (hv x rfl)
      have hfind : findSlot defs d.iei 0 = some (vpre.length, d) := by
        rw [hd, hl]; simpa using findSlot_mid pre d post 0 (hd ▸ hnd)
      refine ⟨b0 :: bt ++ b, by simp [encOpts, henc, hb], ?_⟩
      rw [List.cons_append, List.length_cons, decLoop_cons, htmp, hfind]
      dsimp only
      rw [hdec1, bind_ok, List.length_cons, List.replicate_succ, set_mid, decLoop_fuel_irrel _ _ _ _ _ (by simp) (Nat.le_refl _)]
      exact hdec
  | case3 => simp [WFSlots] at hwf

theorem WFSlots_length : ∀ (ds : List OptSlot) (vs : Slots), WFSlots ds vs → vs.length = ds.length
  | [], [], _ => rfl
  | [], _ :: _, h => by simp [WFSlots] at h
  | _ :: _, [], h => by simp [WFSlots] at h
  | _ :: ds, _ :: vs, h => by simp [WFSlots] at h; simp [WFSlots_length ds vs h.2]

theorem WFSlots_set : ∀ (ds : List OptSlot) (vs : Slots) (i : Nat) (d : OptSlot) (x : IEVal),
    WFSlots ds vs → ds[i]? = some d → OptValOK d x → WFSlots ds (vs.set i (some x)) := by
  intro ds vs i d x h hd hx
  induction ds, vs using WFSlots.induct generalizing i with
  | case1 => simp at hd
  | case2 d0 ds v vs ih =>
    obtain ⟨hv, hrest⟩ := h
    cases i with
    | zero =>
      cases Option.some.inj hd
      exact ⟨fun y hy => by cases hy; exact hx, hrest⟩
    | succ i => exact ⟨hv, ih i hrest (by simpa using hd)⟩
  | case3 => simp [WFSlots] at h

theorem WFSlots_replicate : ∀ ds : List OptSlot, WFSlots ds (List.replicate ds.length none)
  | [] => by simp [WFSlots]
  | _ :: ds => by simp [WFSlots, List.replicate_succ, WFSlots_replicate ds]

theorem decLoop_post (defs : List OptSlot) (hok : defs.all OptSlot.wf = true) (fuel : Nat) (bs : Bytes) (s : Slots)
    (hs : WFSlots defs s) : (decLoop defs fuel bs s).Post (WFSlots defs) := by
  induction fuel generalizing bs s with
  | zero => exact hs
  | succ fuel ih =>
    cases bs with
    | nil => exact hs
    | cons b rest =>
      rw [decLoop_cons]
      split
      next => exact ih _ _ hs
      next i d hf =>
        obtain ⟨hget, hmem, hiei⟩ := findSlot_zero hf
        exact (decOpt_post d (List.all_eq_true.mp hok d hmem) b hiei.symm rest).bind fun p _ hp =>
          ih _ _ (WFSlots_set defs s i d p.1 hs hget hp)

theorem decode_eq (d : MsgDef) (bs : Bytes) :
    decode d bs = decMan d.man bs >>= fun p =>
      decLoop d.opt p.2.length p.2 (List.replicate d.opt.length none) >>= fun ov => pure ⟨p.1, ov⟩ := by
  rw [decode]
  cases decMan d.man bs with
  | ok p =>
    obtain ⟨mv, r⟩ := p; simp only [bind_ok]
    cases decLoop d.opt r.length r (List.replicate d.opt.length none) <;> rfl
  | _ => rfl

/-- C01 and the decode half of C03 -/
theorem decode_post (d : MsgDef) (hd : d.wf = true) (bs : Bytes) :
    (decode d bs).Post fun m => WFVal d m ∧ ∃ b rest, encMan d.man m.man = .ok b ∧ bs = b ++ rest := by
  obtain ⟨hman, hopt, _⟩ := (MsgDef.wf_iff d).1 hd
  rw [decode_eq]
  refine (decMan_post d.man hman bs).bind fun p _ ⟨hp, b, hb, hbs⟩ => ?_
  exact (decLoop_post d.opt hopt _ _ _ (WFSlots_replicate _)).bind fun ov _ hov => ⟨⟨hp, hov⟩, b, p.2, hb, hbs⟩

theorem decode_no_panic (d : MsgDef) (hd : d.wf = true) (bs : Bytes) : decode d bs ≠ .panic :=
  (decode_post d hd bs).ne_panic

/-- C02 -/
theorem roundtrip (d : MsgDef) (hd : d.wf = true) (m : MsgVal) (hm : WFVal d m) :
    ∃ bs, encode d m = .ok bs ∧ decode d bs = .ok m := by
  obtain ⟨hman, hopt, hnd⟩ := (MsgDef.wf_iff d).1 hd
  obtain ⟨b, hb, hdec⟩ := decMan_encMan d.man hman m.man hm.1
  obtain ⟨bo, hbo, hloop⟩ := decLoop_encOpts_suffix d.opt hnd d.opt m.opt hm.2 hopt [] [] rfl rfl
  refine ⟨b ++ bo, by simp [encode, hb, hbo], ?_⟩
  simp only [List.nil_append] at hloop
  rw [decode_eq, hdec, bind_ok, hloop]; rfl

theorem decode_wf (d : MsgDef) (hd : d.wf = true) (bs : Bytes) (m : MsgVal) (h : decode d bs = .ok m) :
    WFVal d m :=
  ((decode_post d hd bs).of_ok h).1

section
variable {α : Type} {enc : α → Outcome Bytes} {dec : Bytes → Outcome α}

/-- C03, for any encoder/decoder pair. The last conjunct (whatever those octets decode to encodes to them again) adds nothing
to the first two, `dec` being a function. -/
theorem fixpoint_of_roundtrip {m : α} (rt : ∃ bs, enc m = .ok bs ∧ dec bs = .ok m) :
    ∃ bs', enc m = .ok bs' ∧ dec bs' = .ok m ∧ ∀ m', dec bs' = .ok m' → enc m' = .ok bs' := by
  obtain ⟨bs, h1, h2⟩ := rt
  exact ⟨bs, h1, h2, fun m' hm' => by cases h2.symm.trans hm'; exact h1⟩

theorem canonical_of_roundtrip {m0 : α} (rt : ∃ bs, enc m0 = .ok bs ∧ dec bs = .ok m0) {bs : Bytes}
    (hbs : enc m0 = .ok bs) : ∃ m, dec bs = .ok m ∧ enc m = .ok bs := by
  obtain ⟨bs', h1, h2⟩ := rt
  cases hbs.symm.trans h1
  exact ⟨m0, h2, hbs⟩
end

/-- C03 (canonical input) -/
theorem canonical_exact (d : MsgDef) (hd : d.wf = true) (m0 : MsgVal) (hm0 : WFVal d m0) (bs : Bytes)
    (hbs : encode d m0 = .ok bs) : ∃ m, decode d bs = .ok m ∧ encode d m = .ok bs :=
  canonical_of_roundtrip (roundtrip d hd m0 hm0) hbs

end NasVerif.Codec

import NasVerif.Codec.Theorems
/-!
# Allocation accounting for the decoders (C01: "memory allocated is bounded by a small linear function of the input length
plus one maximum-size information element")

What the generated decoders allocate: `SetLen` does `make([]uint8, Len)` *after* the length guard and *before* the content is
read (so a declared 65 535 with nothing behind it still allocates 64 KiB once, then the decoder stops with an error), and every
optional element met allocates its struct (`NewX(iei)`, `size` octets as reported by the translator). `allocDecode` adds these
up along the decoder's own control flow.
-/
namespace NasVerif.Codec
open Outcome

/-- octets requested by `SetLen`'s `make` while decoding this element from `bs` -/
def makeBytes (s : Slot) (bs : Bytes) : Nat :=
  match readLen s.lenSize bs with
  | none => 0
  | some (len, _) =>
    if s.guard.ok len && s.alloc then (match s.store with | .buf => len | _ => 0) else 0

def allocMan : List Slot → Bytes → Nat
  | [], _ => 0
  | s :: ss, bs => makeBytes s bs + (match decBody s 0 bs with | .ok (_, rest) => allocMan ss rest | _ => 0)

def allocOpt (d : OptSlot) (rest : Bytes) : Nat := d.slot.size + (if d.half then 0 else makeBytes d.slot rest)

def allocLoop (defs : List OptSlot) : Nat → Bytes → Nat
  | 0, _ => 0
  | _, [] => 0
  | fuel+1, b :: rest =>
    match findSlot defs (tmpIei b) 0 with
    | none => allocLoop defs fuel rest
    | some (_, d) => allocOpt d rest + (match decOpt d b rest with | .ok (_, rest') => allocLoop defs fuel rest' | _ => 0)

def allocDecode (d : MsgDef) (bs : Bytes) : Nat :=
  allocMan d.man bs + (match decMan d.man bs with | .ok (_, rest) => allocLoop d.opt rest.length rest | _ => 0)

theorem makeBytes_le (s : Slot) (bs : Bytes) : makeBytes s bs ≤ 65535 := by
  unfold makeBytes
  cases hr : readLen s.lenSize bs with
  | none => simp
  | some p =>
    obtain ⟨_, hlen, _⟩ := readLen_some hr
    have hlim : p.1 < 65536 := Nat.lt_of_lt_of_le hlen (by unfold lenLimit; split <;> omega)
    dsimp only
    split
    · split <;> omega
    · omega

theorem makeBytes_consumed {s : Slot} {iei : UInt8} {bs : Bytes} {v : IEVal} {rest : Bytes}
    (h : decBody s iei bs = .ok (v, rest)) : makeBytes s bs + rest.length ≤ bs.length := by
  obtain ⟨len, bs1, hr, hg, _, hneed, rfl, _⟩ := decBody_eq_ok h
  obtain ⟨_, _, rfl⟩ := readLen_some hr
  have : makeBytes s (lenBytes s.lenSize len ++ bs1) ≤ s.need len := by
    simp only [makeBytes, hr, hg, Bool.true_and]
    cases hst : s.store with
    | buf => rw [Slot.need_buf hst]; exact Nat.le_refl _  -- the `len` octets `make` requests are the ones read next
    | _ => split <;> exact Nat.zero_le _
  simp only [List.length_append, List.length_drop]; omega

def inputLeft {α : Type} : Outcome (α × Bytes) → Nat
  | .ok (_, r) => r.length
  | _ => 0

/-- allowance for the one `make` that may precede a failure -/
def failSlack {α : Type} : Outcome α → Nat
  | .ok _ => 0
  | _ => 65535

/-- every `make` of the mandatory part is paid for by input consumed, except at the element where decoding stops -/
theorem allocMan_budget (ss : List Slot) (bs : Bytes) :
    allocMan ss bs + inputLeft (decMan ss bs) ≤ bs.length + failSlack (decMan ss bs) := by
  induction ss generalizing bs with
  | nil => simp [allocMan, decMan, inputLeft, failSlack]
  | cons s ss ih =>
    rw [allocMan, decMan_cons]
    cases hb : decBody s 0 bs with
    | ok p =>
      have h1 := makeBytes_consumed hb
      have h2 := ih p.2
      rw [bind_ok]
      cases hq : decMan ss p.2 with
      | ok q => simp only [hq, inputLeft, failSlack, bind_ok, pure_eq] at h2 ⊢; omega
      | err e => simp only [hq, inputLeft, failSlack, bind_err] at h2 ⊢; omega
      | panic => simp only [hq, inputLeft, failSlack, bind_panic] at h2 ⊢; omega
    | _ =>
      have hm := makeBytes_le s bs
      simp only [inputLeft, failSlack, bind_err, bind_panic]; omega

/-- an allocation `a` covered by the input consumed, `n - r` octets, stays covered when every octet counts `K + 1`: the one
nonlinear step of the bound; elsewhere the products are atoms to `omega` -/
theorem add_mul_le_mul_of_add_le (K a r n : Nat) (h : a + r ≤ n) : a + (K + 1) * r ≤ (K + 1) * n := by
  have h1 := Nat.mul_le_mul_left (K + 1) h
  have h2 : a ≤ (K + 1) * a := Nat.le_mul_of_pos_left a (Nat.succ_pos K)
  rw [Nat.mul_add] at h1
  omega

theorem optMake_consumed {d : OptSlot} {b : UInt8} {rest : Bytes} {v : IEVal} {rest' : Bytes}
    (h : decOpt d b rest = .ok (v, rest')) : (if d.half then 0 else makeBytes d.slot rest) + rest'.length ≤ rest.length := by
  unfold decOpt at h
  by_cases hh : d.half = true
  · rw [if_pos hh] at h ⊢; cases h; omega
  · rw [if_neg hh] at h ⊢; exact makeBytes_consumed h

theorem allocLoop_le (defs : List OptSlot) (K : Nat) (hK : ∀ d ∈ defs, d.slot.size ≤ K) (fuel : Nat) (bs : Bytes) :
    allocLoop defs fuel bs ≤ (K + 1) * bs.length + 65535 := by
  induction fuel generalizing bs with
  | zero => simp [allocLoop]
  | succ n ih =>
    cases bs with
    | nil => simp [allocLoop]
    | cons b rest =>
      rw [allocLoop, List.length_cons, Nat.mul_succ]
      cases hf : findSlot defs (tmpIei b) 0 with
      | none => have := ih rest; dsimp only; omega
      | some p =>
        obtain ⟨i, d⟩ := p
        obtain ⟨_, hmem, _⟩ := findSlot_zero hf
        have hd : d.slot.size ≤ K := hK d hmem
        have hmk : (if d.half then 0 else makeBytes d.slot rest) ≤ 65535 := by
          have := makeBytes_le d.slot rest; split <;> omega
        dsimp only [allocOpt]
        cases ho : decOpt d b rest with
        | ok q =>
          -- the struct is paid for by the IEI octet, the `make` by the octets the element consumed
          have := add_mul_le_mul_of_add_le K _ _ _ (optMake_consumed ho)
          have := ih q.2
          dsimp only; omega
        | _ => dsimp only; omega

def maxOptSize (d : MsgDef) : Nat := (d.opt.map (·.slot.size)).foldl Nat.max 0

theorem maxOptSize_ge (d : MsgDef) (x : OptSlot) (hx : x ∈ d.opt) : x.slot.size ≤ maxOptSize d :=
  foldl_max_ge _ 0 _ (Or.inl (List.mem_map.mpr ⟨x, hx, rfl⟩))

/-- C01, allocation -/
theorem allocDecode_le (d : MsgDef) (bs : Bytes) : allocDecode d bs ≤ (maxOptSize d + 1) * bs.length + 65535 := by
  have hb := allocMan_budget d.man bs
  unfold allocDecode
  cases hm : decMan d.man bs with
  | ok p =>
    simp only [hm, inputLeft, failSlack, Nat.add_zero] at hb ⊢
    have := add_mul_le_mul_of_add_le (maxOptSize d) _ _ _ hb
    have := allocLoop_le d.opt (maxOptSize d) (maxOptSize_ge d) p.2.length p.2
    omega
  | _ =>
    have : bs.length ≤ (maxOptSize d + 1) * bs.length := Nat.le_mul_of_pos_left _ (Nat.succ_pos _)
    simp only [hm, inputLeft, failSlack] at hb ⊢; omega

end NasVerif.Codec

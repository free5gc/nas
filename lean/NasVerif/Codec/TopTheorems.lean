import NasVerif.Codec.Theorems
import NasVerif.Codec.Dispatch
/-!
# Theorems about the dispatching entry points, for every `Top` that passes the decidable `Top.wf`
-/
namespace NasVerif.Codec
open Outcome

def Slot.isHdr (s : Slot) : Bool := decide (s.lenSize = 0) && decide (s.store = .octet) && decide (s.guard = .none)

theorem Slot.isHdr_iff (s : Slot) : s.isHdr = true ↔ s.lenSize = 0 ∧ s.store = .octet ∧ s.guard = .none := by
  simp only [Slot.isHdr, Bool.and_eq_true, decide_eq_true_eq, and_assoc]

def keysNodup (l : List (Nat × String)) : Bool := decide ((l.map (·.1)).Nodup)

-- The theorems use `decode = encode`, `0 < headerLen` and the clause on the entries. The two `Nodup`s and
-- `typeIndex < headerLen` are checked on the regenerated tables and consumed by no theorem.
def Dispatch.wf (msgs : List MsgEntry) (dp : Dispatch) : Bool :=
  decide (dp.decode = dp.encode) && keysNodup dp.decode && decide ((dp.decode.map (·.2)).Nodup) &&
  decide (dp.typeIndex < dp.headerLen) && decide (0 < dp.headerLen) &&
  dp.decode.all (fun (_, n) =>
    match findMsg msgs n with
    | some e => decide (dp.headerLen ≤ e.dec.man.length) && (e.dec.man.take dp.headerLen).all Slot.isHdr
    | none => false)

-- `compat` and the two `epd < 256` are checked on the regenerated tables and consumed by no theorem. `compat` is what licenses
-- `famEncode` to run `encode e.dec`, the decoder table's encoder view, where the library runs the separately extracted `Encode*`.
def Top.wf (t : Top) : Bool :=
  t.msgs.all (fun e => e.dec.wf && e.compat) && t.gmm.wf t.msgs && t.gsm.wf t.msgs &&
  decide (t.epdGmm ≠ t.epdGsm) && decide (t.epdGmm < 256) && decide (t.epdGsm < 256)

theorem Dispatch.wf_iff (msgs : List MsgEntry) (dp : Dispatch) : dp.wf msgs = true ↔
    dp.decode = dp.encode ∧ (dp.decode.map (·.1)).Nodup ∧ (dp.decode.map (·.2)).Nodup ∧
      dp.typeIndex < dp.headerLen ∧ 0 < dp.headerLen ∧
      ∀ c n, (c, n) ∈ dp.decode → ∃ e, findMsg msgs n = some e ∧
        dp.headerLen ≤ e.dec.man.length ∧ (e.dec.man.take dp.headerLen).all Slot.isHdr = true := by
  have entry (n : String) :
      (match findMsg msgs n with
        | some e => decide (dp.headerLen ≤ e.dec.man.length) && (e.dec.man.take dp.headerLen).all Slot.isHdr
        | none => false) = true ↔
      ∃ e, findMsg msgs n = some e ∧
        dp.headerLen ≤ e.dec.man.length ∧ (e.dec.man.take dp.headerLen).all Slot.isHdr = true := by
    cases findMsg msgs n <;> simp
  simp only [Dispatch.wf, keysNodup, Bool.and_eq_true, decide_eq_true_eq, and_assoc, List.all_eq_true, Prod.forall, entry]

theorem Top.wf_iff (t : Top) : t.wf = true ↔
    (∀ e ∈ t.msgs, e.dec.wf = true) ∧ (∀ e ∈ t.msgs, e.compat = true) ∧ t.gmm.wf t.msgs = true ∧
      t.gsm.wf t.msgs = true ∧ t.epdGmm ≠ t.epdGsm ∧ t.epdGmm < 256 ∧ t.epdGsm < 256 := by
  simp [Top.wf, and_assoc, forall_and]

/-- `compat` as three equalities of lists: on regenerated tables the two between lists of names are closed by `rfl` (the
literals are identical, so `String.decEq` is never run) -/
theorem all_compat (msgs : List MsgEntry)
    (h1 : msgs.map (·.enc) = msgs.map (·.dec.encView))
    (h2 : msgs.map (·.encNames) = msgs.map (·.decNames))
    (h3 : msgs.map (·.fields) =
      msgs.map fun e => e.decNames.take e.dec.man.length ++ (e.decNames.drop e.dec.man.length).map ("*" ++ ·)) :
    ∀ e ∈ msgs, e.compat = true := fun e he => by
  simp [MsgEntry.compat, List.map_inj_left.mp h1 e he, List.map_inj_left.mp h2 e he, List.map_inj_left.mp h3 e he]

theorem findMsg_mem {msgs : List MsgEntry} {n : String} {e : MsgEntry} (h : findMsg msgs n = some e) : e ∈ msgs := by
  induction msgs with
  | nil => simp [findMsg] at h
  | cons x xs ih =>
    simp only [findMsg] at h
    split at h
    · simp at h; simp [h]
    · exact List.mem_cons_of_mem _ (ih h)

theorem lookupType_mem {l : List (Nat × String)} {t : Nat} {n : String} (h : lookupType l t = some n) : (t, n) ∈ l := by
  induction l with
  | nil => simp [lookupType] at h
  | cons x xs ih =>
    obtain ⟨c, m⟩ := x
    simp only [lookupType] at h
    split at h
    · simp at h; subst h; simp_all
    · exact List.mem_cons_of_mem _ (ih h)

theorem lookupType_of_mem (l : List (Nat × String)) (hnd : (l.map (·.1)).Nodup) (t : Nat) (n : String)
    (h : (t, n) ∈ l) : lookupType l t = some n := by
  induction l with
  | nil => simp at h
  | cons x xs ih =>
    obtain ⟨c, m⟩ := x
    simp only [lookupType]
    simp at hnd
    rcases List.mem_cons.mp h with h | h
    · simp at h; simp [h.1, h.2]
    · have hne : c ≠ t := by
        intro hc; subst hc
        exact hnd.1 n h
      simp [hne]; exact ih hnd.2 h

def hdrOf (k : Nat) (vs : List IEVal) : Bytes := (vs.take k).flatMap (·.data)

theorem encMan_hdr {ss : List Slot} {vs : List IEVal} (hw : WFMan ss vs) {k : Nat} (hk : k ≤ ss.length)
    (hh : (ss.take k).all Slot.isHdr = true) {b : Bytes} (he : encMan ss vs = .ok b) :
    b.take k = hdrOf k vs ∧ k ≤ b.length := by
  induction ss, vs using WFMan.induct generalizing k b with
  | case1 =>
    have : k = 0 := by simpa using hk
    subst this; simp [hdrOf]
  | case2 s ss v vs ih =>
    cases k with
    | zero => simp [hdrOf]
    | succ k =>
      obtain ⟨⟨_, hv⟩, hrest⟩ := hw
      simp only [List.take_succ_cons, List.all_cons, Bool.and_eq_true] at hh
      obtain ⟨hl0, hst, _⟩ := (Slot.isHdr_iff s).1 hh.1
      obtain ⟨x, hx⟩ := hv.octet hst
      rw [encMan, encBody_octet hl0 hst] at he
      cases hbs : encMan ss vs with
      | ok bs' =>
        rw [hbs] at he; cases he
        simpa [hdrOf, hx] using ih hrest (by simpa using hk) hh.2 hbs
      | err e => simp [hbs] at he
      | panic => simp [hbs] at he
  | case3 => simp [WFMan] at hw

structure WFFamily (msgs : List MsgEntry) (dp : Dispatch) (epd : Nat) (f : Family) : Prop where
  one : ∃ name v e, f.bodies = [(name, v)] ∧ findMsg msgs name = some e ∧ WFVal e.dec v ∧
        lookupType dp.decode (f.header.getD dp.typeIndex 0).toNat = some name ∧
        f.header = hdrOf dp.headerLen v.man
  epd : (f.header.getD 0 0).toNat = epd

/-- the property's "well-formed message" -/
def WFNas (t : Top) (m : NasMsg) : Prop :=
  (∃ f, m = ⟨some f, none⟩ ∧ WFFamily t.msgs t.gmm t.epdGmm f) ∨
  (∃ f, m = ⟨none, some f⟩ ∧ WFFamily t.msgs t.gsm t.epdGsm f)

theorem dispatch_entry {msgs : List MsgEntry} {dp : Dispatch} (hdp : dp.wf msgs = true) {c : Nat} {n : String}
    (h : (c, n) ∈ dp.decode) {e : MsgEntry} (he : findMsg msgs n = some e) :
    dp.headerLen ≤ e.dec.man.length ∧ (e.dec.man.take dp.headerLen).all Slot.isHdr = true := by
  obtain ⟨_, _, _, _, _, hentries⟩ := (Dispatch.wf_iff msgs dp).1 hdp
  obtain ⟨e', he', hlen, hhdr⟩ := hentries c n h
  cases he.symm.trans he'
  exact ⟨hlen, hhdr⟩

theorem decode_hdr {d : MsgDef} (hd : d.wf = true) {k : Nat} (hk : k ≤ d.man.length)
    (hh : (d.man.take k).all Slot.isHdr = true) {bs : Bytes} {v : MsgVal} (hdec : decode d bs = .ok v) :
    bs.take k = hdrOf k v.man ∧ k ≤ bs.length := by
  obtain ⟨hwv, b, rest, hb, rfl⟩ := (decode_post d hd bs).of_ok hdec
  obtain ⟨h1, hbl⟩ := encMan_hdr hwv.1 hk hh hb
  exact ⟨by rw [List.take_append_of_le_length hbl, h1], by simp; omega⟩

theorem famDecode_eq (msgs : List MsgEntry) (dp : Dispatch) (bs : Bytes) :
    famDecode msgs dp bs =
      if bs.length < dp.headerLen then .err .trunc
      else match lookupType dp.decode ((bs.take dp.headerLen).getD dp.typeIndex 0).toNat with
        | none => .err .unknown
        | some name =>
          match findMsg msgs name with
          | none => .err .other
          | some e => decode e.dec bs >>= fun v => pure ⟨bs.take dp.headerLen, [(name, v)]⟩ := by
  unfold famDecode
  split
  · rfl
  · dsimp only
    cases lookupType dp.decode ((bs.take dp.headerLen).getD dp.typeIndex 0).toNat with
    | none => rfl
    | some name =>
      dsimp only
      cases findMsg msgs name with
      | none => rfl
      | some e => dsimp only; cases decode e.dec bs <;> rfl

theorem famDecode_short (msgs : List MsgEntry) (dp : Dispatch) (bs : Bytes) (h : bs.length < dp.headerLen) :
    famDecode msgs dp bs = .err .trunc := by
  rw [famDecode_eq, if_pos h]

/-- C01 and C05 (decode side) for `GmmMessageDecode` / `GsmMessageDecode` -/
theorem famDecode_post (msgs : List MsgEntry) (hm : ∀ e ∈ msgs, e.dec.wf = true)
    (dp : Dispatch) (hdp : dp.wf msgs = true) (bs : Bytes) :
    (famDecode msgs dp bs).Post (WFFamily msgs dp (bs.getD 0 0).toNat) := by
  obtain ⟨_, _, _, _, hpos, _⟩ := (Dispatch.wf_iff msgs dp).1 hdp
  rw [famDecode_eq]
  split
  next => trivial
  next =>
    split
    next => trivial
    next name hlk =>
      split
      next => trivial
      next e hfe =>
        have hewf := hm e (findMsg_mem hfe)
        obtain ⟨hk, hhdr⟩ := dispatch_entry hdp (lookupType_mem hlk) hfe
        refine (decode_post e.dec hewf bs).bind fun v hdec ⟨hwv, _⟩ => ?_
        obtain ⟨hpre, _⟩ := decode_hdr hewf hk hhdr hdec
        exact ⟨⟨name, v, e, rfl, hfe, hwv, hlk, hpre⟩, congrArg _ (take_getD bs _ 0 0 hpos)⟩

theorem plainDecode_cons (t : Top) (b : UInt8) (rest : Bytes) :
    plainDecode t (some (b :: rest)) =
      if b.toNat = t.epdGmm then famDecode t.msgs t.gmm (b :: rest) >>= fun f => pure ⟨some f, none⟩
      else if b.toNat = t.epdGsm then famDecode t.msgs t.gsm (b :: rest) >>= fun f => pure ⟨none, some f⟩
      else .err .unknown := by
  simp only [plainDecode]
  split
  · cases famDecode t.msgs t.gmm (b :: rest) <;> rfl
  · split
    · cases famDecode t.msgs t.gsm (b :: rest) <;> rfl
    · rfl

theorem plainDecode_unknown_epd (t : Top) (b : UInt8) (rest : Bytes) (h1 : b.toNat ≠ t.epdGmm) (h2 : b.toNat ≠ t.epdGsm) :
    plainDecode t (some (b :: rest)) = .err .unknown := by
  rw [plainDecode_cons, if_neg h1, if_neg h2]

/-- C01 and C05 (decode side) for `PlainNasDecode` -/
theorem plainDecode_post (t : Top) (ht : t.wf = true) (inp : Option Bytes) : (plainDecode t inp).Post (WFNas t) := by
  obtain ⟨hm, _, hg, hs, _⟩ := (Top.wf_iff t).1 ht
  match inp with
  | none => trivial
  | some [] => trivial
  | some (b :: rest) =>
    rw [plainDecode_cons]
    split
    next hb => exact (famDecode_post t.msgs hm t.gmm hg _).bind fun f _ hf => Or.inl ⟨f, rfl, by simpa [hb] using hf⟩
    next =>
      split
      next hb => exact (famDecode_post t.msgs hm t.gsm hs _).bind fun f _ hf => Or.inr ⟨f, rfl, by simpa [hb] using hf⟩
      next => trivial

theorem fam_roundtrip {msgs : List MsgEntry} (hm : ∀ e ∈ msgs, e.dec.wf = true)
    {dp : Dispatch} (hdp : dp.wf msgs = true) {epd : Nat} {f : Family} (hf : WFFamily msgs dp epd f) :
    ∃ b rest, famEncode msgs dp f = .ok (b :: rest) ∧ famDecode msgs dp (b :: rest) = .ok f ∧ b.toNat = epd := by
  obtain ⟨hdr, bodies⟩ := f
  obtain ⟨⟨name, v, e, hb, hfe, hwv, hlk, hhdr⟩, hepd⟩ := hf
  dsimp only at hb hlk hhdr hepd
  subst hb
  have hewf := hm e (findMsg_mem hfe)
  obtain ⟨bs, henc, hdec⟩ := roundtrip e.dec hewf v hwv
  obtain ⟨hk, hhs⟩ := dispatch_entry hdp (lookupType_mem hlk) hfe
  obtain ⟨hde, _, _, _, hpos, _⟩ := (Dispatch.wf_iff msgs dp).1 hdp
  obtain ⟨hpre, hlen⟩ := decode_hdr hewf hk hhs hdec
  rw [← hhdr] at hpre
  cases bs with
  | nil => simp at hlen; omega
  | cons b rest =>
    refine ⟨b, rest, ?_, ?_, ?_⟩
    · unfold famEncode; dsimp only; rw [← hde, hlk]; simp [hfe, henc]
    · rw [famDecode_eq, if_neg (by omega), hpre, hlk]
      simp only [hfe, hdec, bind_ok, pure_eq]
    · rw [← hepd, ← hpre, take_getD _ _ 0 0 hpos]; rfl

/-- C02 through `PlainNasEncode` / `PlainNasDecode` -/
theorem plain_roundtrip (t : Top) (ht : t.wf = true) (m : NasMsg) (hm : WFNas t m) :
    ∃ bs, plainEncode t m = .ok bs ∧ plainDecode t (some bs) = .ok m := by
  obtain ⟨hmsgs, _, hg, hs, hne, _⟩ := (Top.wf_iff t).1 ht
  rcases hm with ⟨f, rfl, hf⟩ | ⟨f, rfl, hf⟩
  · obtain ⟨b, rest, h1, h2, h3⟩ := fam_roundtrip hmsgs hg hf
    exact ⟨b :: rest, by simp [plainEncode, h1], by rw [plainDecode_cons, if_pos h3, h2]; rfl⟩
  · obtain ⟨b, rest, h1, h2, h3⟩ := fam_roundtrip hmsgs hs hf
    exact ⟨b :: rest, by simp [plainEncode, h1], by rw [plainDecode_cons, if_neg (by omega), if_pos h3, h2]; rfl⟩

end NasVerif.Codec

import NasVerif.Codec.Defs
import NasVerif.Proofs.Outcome
import NasVerif.Proofs.Bits
/-!
`decContent_eq`: every storage class reads its content as "take `need` octets, zero-pad by `pad`" unless the declared length
does not fit (`fits`). `ValOK.of_content` / `ValOK.content_pad`: the values of that form are exactly the well-formed ones, and
they encode to the octets read.
-/
namespace NasVerif.Codec

/-- what panic-freedom of the decoder needs from a slot -/
def Slot.wf (s : Slot) : Bool :=
  decide (s.lenSize ≤ 2) &&
  match s.store, s.span with
  | .arr n, .toLen => (match s.guard.hi with | some h => decide (h ≤ n) | none => false)
  | .arr _, .all => true
  | _, .toLen => false
  | _, .all => true

theorem Slot.wf_iff (s : Slot) : s.wf = true ↔
    s.lenSize ≤ 2 ∧ (s.span = .toLen → ∃ n h, s.store = .arr n ∧ s.guard.hi = some h ∧ h ≤ n) := by
  unfold Slot.wf
  cases s.store with
  | arr n =>
    cases s.span with
    | all => simp
    | toLen => cases s.guard.hi <;> simp
  | _ => cases s.span <;> simp

def lenLimit : Nat → Nat
  | 0 => 1  -- no length field: `Len` stays 0
  | 1 => 256
  | _ => 65536

/-- the property's "well-formed element"; only `Octet[:Len]` and an allocated `Buffer` tie the size of the storage to the
declared length -/
def ValOK (s : Slot) (v : IEVal) : Prop :=
  v.len < lenLimit s.lenSize ∧ s.guard.ok v.len = true ∧
  match s.store, s.span with
  | .octet, _ => v.data.length = 1
  | .arr n, .all => v.data.length = n
  | .arr n, .toLen => v.len ≤ n ∧ v.data = v.data.take v.len ++ List.replicate (n - v.len) 0 ∧ v.data.length = n
  | .buf, _ => v.data.length = (if s.alloc then v.len else 0)
  | .unit, _ => v.data = []

instance (s : Slot) (v : IEVal) : Decidable (ValOK s v) := by
  unfold ValOK; cases s.store <;> cases s.span <;> infer_instance

theorem Guard.le_hi {g : Guard} {n h : Nat} (hok : g.ok n = true) (hh : g.hi = some h) : n ≤ h := by
  cases g with
  | none | min lo => simp [Guard.hi] at hh
  | range lo hi | max hi | exact k => simp [Guard.hi] at hh; simp [Guard.ok] at hok; omega
  | oneOf l =>
    simp [Guard.hi] at hh; simp [Guard.ok] at hok
    subst hh
    exact foldl_max_ge l 0 n (Or.inl hok)

theorem readLen_lenBytes (k n : Nat) (hk : k ≤ 2) (hn : n < lenLimit k) (rest : Bytes) :
    readLen k (lenBytes k n ++ rest) = some (n, rest) := by
  match k, hk with
  | 0, _ => simp [lenLimit] at hn; subst hn; simp [readLen, lenBytes]
  | 1, _ | 2, _ =>
    simp [lenLimit] at hn
    simp [readLen, lenBytes, UInt8.toNat_ofNat']
    omega

theorem readLen_some {k : Nat} {bs : Bytes} {n : Nat} {rest : Bytes} (h : readLen k bs = some (n, rest)) :
    k ≤ 2 ∧ n < lenLimit k ∧ bs = lenBytes k n ++ rest := by
  match k, bs with
  | 0, bs => simp [readLen] at h; obtain ⟨rfl, rfl⟩ := h; simp [lenLimit, lenBytes]
  | 1, [] => simp [readLen] at h
  | 1, b :: bs =>
    simp [readLen] at h; obtain ⟨rfl, rfl⟩ := h
    refine ⟨by omega, by simpa [lenLimit] using b.toNat_lt, ?_⟩
    simp [lenBytes]
  | 2, [] => simp [readLen] at h
  | 2, [_] => simp [readLen] at h
  | 2, x :: y :: bs =>
    simp [readLen] at h; obtain ⟨rfl, rfl⟩ := h
    have hx := x.toNat_lt
    have hy := y.toNat_lt
    refine ⟨by omega, by simp [lenLimit]; omega, ?_⟩
    simp [lenBytes, ← UInt8.toNat_inj, UInt8.toNat_ofNat']
    omega
  | k+3, bs => simp [readLen] at h

/-- the content octets the element takes from the input when its length field reads `len` (a `Buffer` that `SetLen` does not
allocate takes none) -/
def Slot.need (s : Slot) (len : Nat) : Nat :=
  match s.store, s.span with
  | .octet, _ => 1
  | .arr n, .all => n
  | .arr _, .toLen => len
  | .buf, _ => if s.alloc then len else 0
  | .unit, _ => 0

theorem Slot.need_octet {s : Slot} (hst : s.store = .octet) (len : Nat) : s.need len = 1 := by
  simp only [Slot.need, hst]

theorem Slot.need_arr_all {s : Slot} {n : Nat} (hst : s.store = .arr n) (hsp : s.span = .all) (len : Nat) :
    s.need len = n := by
  simp only [Slot.need, hst, hsp]

theorem Slot.need_arr_toLen {s : Slot} {n : Nat} (hst : s.store = .arr n) (hsp : s.span = .toLen) (len : Nat) :
    s.need len = len := by
  simp only [Slot.need, hst, hsp]

theorem Slot.need_buf {s : Slot} (hst : s.store = .buf) (len : Nat) : s.need len = if s.alloc then len else 0 := by
  simp only [Slot.need, hst]

theorem Slot.need_unit {s : Slot} (hst : s.store = .unit) (len : Nat) : s.need len = 0 := by
  simp only [Slot.need, hst]

/-- `Octet[:Len]` on an `Octet [n]uint8`: a `Len` above `n` is a slice-bounds panic -/
def Slot.fits (s : Slot) (len : Nat) : Bool :=
  match s.store, s.span with
  | .arr n, .toLen => decide (len ≤ n)
  | _, _ => true

/-- `Octet[:Len]` on an `Octet [n]uint8` with `Len` below `n`: the last `n - Len` octets of the array stay zero -/
def Slot.pad (s : Slot) (len : Nat) : Nat :=
  match s.store, s.span with
  | .arr n, .toLen => n - len
  | _, _ => 0

theorem decContent_eq (s : Slot) (iei : UInt8) (len : Nat) (bs1 : Bytes) :
    decContent s iei len bs1 =
      if s.fits len then
        if bs1.length < s.need len then .err .trunc
        else .ok (⟨iei, len, bs1.take (s.need len) ++ List.replicate (s.pad len) 0⟩, bs1.drop (s.need len))
      else .panic := by
  unfold decContent Slot.need Slot.fits Slot.pad
  cases s.store with
  | octet => cases bs1 <;> simp
  | arr n =>
    cases s.span with
    | all => simp
    | toLen => by_cases h : len ≤ n <;> simp [h, Nat.not_lt.mpr, Nat.lt_of_not_le]
  | buf => cases s.span <;> simp
  | unit => cases s.span <;> simp

theorem Slot.wf_fits {s : Slot} (hs : s.wf = true) {len : Nat} (hg : s.guard.ok len = true) : s.fits len = true := by
  unfold Slot.fits
  split
  next n hst hsp =>
    obtain ⟨_, htoLen⟩ := (Slot.wf_iff s).1 hs
    obtain ⟨n', h, hst', hh, hle⟩ := htoLen hsp
    cases hst.symm.trans hst'
    have := Guard.le_hi hg hh
    simp; omega
  next => rfl

theorem ValOK.of_content (s : Slot) (iei : UInt8) (len : Nat) (c : Bytes) (hlim : len < lenLimit s.lenSize)
    (hg : s.guard.ok len = true) (hfit : s.fits len = true) (hc : c.length = s.need len) :
    ValOK s ⟨iei, len, c ++ List.replicate (s.pad len) 0⟩ ∧
      encContent s ⟨iei, len, c ++ List.replicate (s.pad len) 0⟩ = .ok c := by
  unfold ValOK encContent
  unfold Slot.need at hc
  unfold Slot.fits at hfit
  unfold Slot.pad
  cases hst : s.store <;> cases hsp : s.span <;> simp_all

theorem ValOK.content_pad {s : Slot} {v : IEVal} (hv : ValOK s v) :
    v.data = v.data.take (s.need v.len) ++ List.replicate (s.pad v.len) 0 ∧
      s.need v.len ≤ v.data.length ∧ s.fits v.len = true := by
  obtain ⟨_, _, hv⟩ := hv
  unfold Slot.need Slot.fits Slot.pad
  cases hst : s.store with
  | arr n =>
    cases hsp : s.span with
    | all => simp_all [List.take_of_length_le]
    | toLen =>
      simp only [hst, hsp] at hv ⊢
      obtain ⟨hle, hdata, hlen⟩ := hv
      exact ⟨hdata, by omega, by simpa using hle⟩
  | _ => cases hsp : s.span <;> simp_all [List.take_of_length_le]

theorem ValOK.encContent {s : Slot} {v : IEVal} (hv : ValOK s v) :
    encContent s v = .ok (v.data.take (s.need v.len)) := by
  obtain ⟨hdata, hneed, hfit⟩ := hv.content_pad
  obtain ⟨hlim, hg, _⟩ := hv
  obtain ⟨_, henc⟩ := ValOK.of_content s v.iei v.len _ hlim hg hfit (List.length_take_of_le hneed)
  rwa [← hdata] at henc

theorem ValOK.octet {s : Slot} {v : IEVal} (hv : ValOK s v) (hst : s.store = .octet) : ∃ x, v.data = [x] := by
  obtain ⟨_, _, hv⟩ := hv
  simp only [hst] at hv
  exact List.length_eq_one_iff.mp hv

theorem encBody_octet {s : Slot} (hl : s.lenSize = 0) (hst : s.store = .octet) (v : IEVal) : encBody s v = .ok v.data := by
  simp [encBody, encContent, hst, hl, lenBytes]

theorem decBody_eq_ok {s : Slot} {iei : UInt8} {bs : Bytes} {v : IEVal} {rest : Bytes} (h : decBody s iei bs = .ok (v, rest)) :
    ∃ len bs1, readLen s.lenSize bs = some (len, bs1) ∧ s.guard.ok len = true ∧ s.fits len = true ∧
      s.need len ≤ bs1.length ∧ rest = bs1.drop (s.need len) ∧
      v = ⟨iei, len, bs1.take (s.need len) ++ List.replicate (s.pad len) 0⟩ := by
  unfold decBody at h
  cases hr : readLen s.lenSize bs with
  | none => simp [hr] at h
  | some p =>
    rw [hr] at h
    dsimp only at h
    rw [decContent_eq] at h
    split at h; · simp at h
    split at h
    next hg hfit =>
      split at h; · simp at h
      next hlen =>
        simp only [Outcome.ok.injEq, Prod.mk.injEq] at h
        exact ⟨p.1, p.2, rfl, by simpa using hg, hfit, by omega, h.2.symm, h.1.symm⟩
    next => simp at h

theorem decBody_iei {s : Slot} {iei : UInt8} {bs : Bytes} {v : IEVal} {rest : Bytes} (h : decBody s iei bs = .ok (v, rest)) :
    v.iei = iei := by
  obtain ⟨_, _, _, _, _, _, _, rfl⟩ := decBody_eq_ok h; rfl

theorem decBody_no_panic (s : Slot) (hs : s.wf = true) (iei : UInt8) (bs : Bytes) :
    decBody s iei bs ≠ .panic := by
  unfold decBody
  cases readLen s.lenSize bs with
  | none => simp
  | some p =>
    dsimp only
    split; · simp
    next hg =>
      rw [decContent_eq, if_pos (Slot.wf_fits hs (by simpa using hg))]
      split <;> simp

theorem decBody_encBody (s : Slot) (hs : s.wf = true) (v : IEVal) (hv : ValOK s v) :
    ∃ b, encBody s v = .ok b ∧ ∀ rest, decBody s v.iei (b ++ rest) = .ok (v, rest) := by
  obtain ⟨hk, _⟩ := (Slot.wf_iff s).1 hs
  obtain ⟨hdata, hneed, hfit⟩ := hv.content_pad
  refine ⟨_, by rw [encBody, hv.encContent], fun rest => ?_⟩
  obtain ⟨hlen, hg, _⟩ := hv
  have hl : (v.data.take (s.need v.len)).length = s.need v.len := List.length_take_of_le hneed
  rw [decBody, List.append_assoc, readLen_lenBytes _ _ hk hlen]
  simp only [hg, Bool.not_true, Bool.false_eq_true, if_false]
  rw [decContent_eq, if_pos hfit, List.take_left' hl, List.drop_left' hl, ← hdata]
  simp [hl]

theorem encBody_decBody {s : Slot} {iei : UInt8} {bs : Bytes} {v : IEVal} {rest : Bytes}
    (h : decBody s iei bs = .ok (v, rest)) :
    ValOK s v ∧ v.iei = iei ∧ ∃ b, encBody s v = .ok b ∧ bs = b ++ rest := by
  obtain ⟨len, bs1, hr, hg, hfit, hneed, rfl, rfl⟩ := decBody_eq_ok h
  obtain ⟨_, hlim, rfl⟩ := readLen_some hr
  obtain ⟨hval, henc⟩ := ValOK.of_content s iei len _ hlim hg hfit (List.length_take_of_le hneed)
  exact ⟨hval, rfl, _, by rw [encBody, henc], by simp⟩

theorem decBody_post (s : Slot) (hs : s.wf = true) (iei : UInt8) (bs : Bytes) :
    (decBody s iei bs).Post fun p => ValOK s p.1 ∧ p.1.iei = iei ∧ ∃ b, encBody s p.1 = .ok b ∧ bs = b ++ p.2 := by
  cases h : decBody s iei bs with
  | ok p => exact encBody_decBody h
  | err e => trivial
  | panic => exact decBody_no_panic s hs iei bs h

end NasVerif.Codec

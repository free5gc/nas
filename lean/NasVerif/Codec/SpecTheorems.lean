import NasVerif.Codec.Theorems
import NasVerif.Spec.Msg
/-!
# The extracted tables, read in TS 24.501 vocabulary, and agreement of `Codec.encode` / `Codec.decode` with
`Spec.render` / `Spec.decode`, which work on tables in that vocabulary (C04)
-/
namespace NasVerif.Codec

def Slot.fixed (s : Slot) : Nat :=
  match s.store with
  | .octet => 1
  | .arr n => n
  | .buf => 0
  | .unit => 0

def Slot.lens (s : Slot) : Spec.Lens :=
  if s.lenSize = 0 then .range s.fixed s.fixed
  else match s.guard with
    | .none => .range 0 (lenLimit s.lenSize - 1)
    | .range lo hi => .range lo hi
    | .min lo => .range lo (lenLimit s.lenSize - 1)
    | .max hi => .range 0 hi
    | .exact n => .range n n
    | .oneOf l => .oneOf l

def Slot.toIE (s : Slot) : Spec.IE :=
  ⟨(match s.lenSize with | 0 => .V | 1 => .LV | _ => .LVE), 0, s.lens⟩

def OptSlot.toIE (d : OptSlot) : Spec.IE :=
  ⟨(if d.half then .TV1 else match d.slot.lenSize with | 0 => .TV | 1 => .TLV | _ => .TLVE), d.iei, d.slot.lens⟩

def MsgDef.toSpec (d : MsgDef) : Spec.Msg := ⟨d.man.map Slot.toIE, d.opt.map OptSlot.toIE⟩

/-- the storage class realises the format -/
def Slot.specOK (s : Slot) : Bool :=
  s.wf &&
  (match s.lenSize, s.store, s.span with
   | 0, .buf, _ => false
   | 0, _, .all => decide (s.guard = .none)
   | 0, _, .toLen => false
   | _, .octet, _ => decide (s.guard = .exact 1)
   | _, .arr n, .all => decide (s.guard = .exact n)
   | _, .arr _, .toLen => true
   | _, .buf, _ => s.alloc
   | _, .unit, _ => false)

theorem Slot.specOK_iff (s : Slot) : s.specOK = true ↔ s.wf = true ∧
    if s.lenSize = 0 then s.guard = .none ∧ s.span = .all ∧ s.store ≠ .buf
    else (s.store = .octet → s.guard = .exact 1) ∧ (∀ n, s.store = .arr n → s.span = .all → s.guard = .exact n) ∧
      (s.store = .buf → s.alloc = true) ∧ s.store ≠ .unit := by
  unfold Slot.specOK
  rcases s.lenSize with _ | k <;> cases s.store <;> cases s.span <;> simp

theorem Slot.specOK_wf {s : Slot} (hs : s.specOK = true) : s.wf = true := ((Slot.specOK_iff s).1 hs).1

def OptSlot.specOK (d : OptSlot) : Bool :=
  d.wf && (d.half || d.slot.specOK) &&
  (!d.half || (decide (d.slot.lenSize = 0) && decide (d.slot.store = .octet) && decide (d.slot.span = .all)))

theorem OptSlot.specOK_half {d : OptSlot} (hd : d.specOK = true) (hh : d.half = true) : d.slot.span = .all := by
  simp only [OptSlot.specOK, hh, Bool.and_eq_true, decide_eq_true_eq, Bool.not_true, Bool.false_or] at hd
  obtain ⟨_, _, hsp⟩ := hd
  exact hsp

theorem OptSlot.specOK_full {d : OptSlot} (hd : d.specOK = true) (hh : ¬ d.half = true) :
    d.hasIei = true ∧ d.slot.specOK = true := by
  simp only [OptSlot.specOK, Bool.and_eq_true, hh, Bool.false_or] at hd
  obtain ⟨⟨hwf, hs⟩, _⟩ := hd
  obtain ⟨_, hhas, _⟩ := OptSlot.wf_full hwf hh
  exact ⟨hhas, hs⟩

def MsgDef.specOK (d : MsgDef) : Bool := d.wf && d.man.all Slot.specOK && d.opt.all OptSlot.specOK

theorem MsgDef.specOK_iff (d : MsgDef) : d.specOK = true ↔
    d.wf = true ∧ d.man.all Slot.specOK = true ∧ d.opt.all OptSlot.specOK = true := by
  simp only [MsgDef.specOK, Bool.and_eq_true, and_assoc]

def toSVal (s : Slot) (v : IEVal) : Spec.Val :=
  ⟨v.iei, v.len, match s.span with | .toLen => v.data.take v.len | .all => v.data⟩

def toSVals : List Slot → List IEVal → List Spec.Val
  | s :: ss, v :: vs => toSVal s v :: toSVals ss vs
  | _, _ => []

def toSOpts : List OptSlot → Slots → List (Option Spec.Val)
  | d :: ds, v :: vs => v.map (toSVal d.slot) :: toSOpts ds vs
  | _, _ => []

def toMVal (d : MsgDef) (m : MsgVal) : Spec.MVal := ⟨toSVals d.man m.man, toSOpts d.opt m.opt⟩

theorem toSVal_content (s : Slot) (hs : s.wf = true) (iei : UInt8) (len : Nat) (c : Bytes) (hc : c.length = s.need len) :
    (toSVal s ⟨iei, len, c ++ List.replicate (s.pad len) 0⟩).value = c := by
  unfold toSVal
  cases hsp : s.span with
  | all => simp [Slot.pad, hsp]  -- no padding, and the value is all of the data
  | toLen => -- the value is the first `len` octets, and those are `c`: only an array is read up to `len`
    obtain ⟨n, _, hst, _⟩ := ((Slot.wf_iff s).1 hs).2 hsp
    rw [Slot.need_arr_toLen hst hsp] at hc
    exact List.take_left' hc

theorem encBody_render (s : Slot) (hs : s.wf = true) (v : IEVal) (hv : ValOK s v) :
    encBody s v = .ok (Spec.renderIE s.toIE (toSVal s v)) := by
  obtain ⟨hdata, hneed, _⟩ := hv.content_pad
  have hval := toSVal_content s hs v.iei v.len _ (List.length_take_of_le hneed)
  rw [← hdata] at hval
  rw [encBody, hv.encContent, ← hval]
  unfold Spec.renderIE Slot.toIE
  rcases s.lenSize with _ | _ | k <;> simp [toSVal, lenBytes, Spec.len1, Spec.len2]

theorem renderIE_opt (d : OptSlot) (hh : ¬ d.half = true) (v : Spec.Val) :
    Spec.renderIE d.toIE v = [v.iei] ++ Spec.renderIE d.slot.toIE v := by
  unfold OptSlot.toIE Slot.toIE Spec.renderIE
  rcases hl : d.slot.lenSize with _ | _ | k <;> simp [hh]

theorem encOne_render (d : OptSlot) (hd : d.specOK = true) (v : IEVal) (hv : OptValOK d v) :
    encOne d v = .ok (Spec.renderIE d.toIE (toSVal d.slot v)) := by
  unfold OptValOK at hv
  unfold encOne
  by_cases hh : d.half = true
  · simp [hh] at hv ⊢
    simp [OptSlot.toIE, hh, Spec.renderIE, toSVal, OptSlot.specOK_half hd hh]
  · obtain ⟨hhas, hs⟩ := OptSlot.specOK_full hd hh
    simp [hh] at hv
    rw [renderIE_opt d hh, encBody_render d.slot (Slot.specOK_wf hs) v hv.2]
    simp [hh, hhas, toSVal]

theorem encMan_render (ss : List Slot) (hs : ss.all Slot.wf = true) (vs : List IEVal) (hv : WFMan ss vs) :
    encMan ss vs = .ok (Spec.renderMan (ss.map Slot.toIE) (toSVals ss vs)) := by
  induction ss, vs using WFMan.induct with
  | case1 => rfl
  | case2 s ss v vs ih =>
    simp only [List.all_cons, Bool.and_eq_true] at hs
    obtain ⟨⟨_, hvok⟩, hrest⟩ := hv
    simp [encMan, encBody_render s hs.1 v hvok, ih hs.2 hrest, Spec.renderMan, toSVals]
  | case3 => simp [WFMan] at hv

theorem encOpts_render (ds : List OptSlot) (hs : ds.all OptSlot.specOK = true) (vs : Slots) (hv : WFSlots ds vs) :
    encOpts ds vs = .ok (Spec.renderOpt (ds.map OptSlot.toIE) (toSOpts ds vs)) := by
  induction ds, vs using WFSlots.induct with
  | case1 => rfl
  | case2 d ds v vs ih =>
    simp only [List.all_cons, Bool.and_eq_true] at hs
    cases v with
    | none => simp [encOpts, ih hs.2 hv.2, Spec.renderOpt, toSOpts]
    | some x => simp [encOpts, encOne_render d hs.1 x (hv.1 x rfl), ih hs.2 hv.2, Spec.renderOpt, toSOpts]
  | case3 => simp [WFSlots] at hv

/-- C04 (encoder) -/
theorem encode_layout (d : MsgDef) (hd : d.specOK = true) (m : MsgVal) (hm : WFVal d m) :
    encode d m = .ok (Spec.render d.toSpec (toMVal d m)) := by
  obtain ⟨hwf, _, hopt⟩ := (MsgDef.specOK_iff d).1 hd
  obtain ⟨hman, _⟩ := (MsgDef.wf_iff d).1 hwf
  simp [encode, encMan_render d.man hman m.man hm.1, encOpts_render d.opt hopt m.opt hm.2, Spec.render,
    MsgDef.toSpec, toMVal]

/-- a codec outcome as the table-driven decoder's result: a returned value is read in TS vocabulary by `f`; an error, and a
panic as well, is "not accepted" (`decode_rejects` then needs `decode_no_panic` to tell them apart) -/
def specView {α β : Type} (f : α → β) : Outcome α → Option β
  | .ok a => some (f a)
  | _ => none

def bodyView (s : Slot) : Outcome (IEVal × Bytes) → Option (Nat × Bytes × Bytes) :=
  specView fun p => (p.1.len, (toSVal s p.1).value, p.2)

theorem readLen_zero (bs : Bytes) : readLen 0 bs = some (0, bs) := rfl

theorem lens_ok_agree (s : Slot) (hl : s.lenSize ≠ 0) (n : Nat) (hn : n < lenLimit s.lenSize) :
    s.lens.ok n = s.guard.ok n := by
  unfold Slot.lens
  simp only [hl, if_false]
  -- where the guard leaves the upper side open, `Slot.lens` closes it by what the length field can carry (`hn`)
  cases s.guard with
  | none => -- `n ≤ lenLimit s.lenSize - 1`
    simp only [Spec.Lens.ok, Guard.ok, Nat.zero_le, decide_true, Bool.true_and, decide_eq_true_eq]; omega
  | min lo => -- `lo ≤ n → n ≤ lenLimit s.lenSize - 1`
    simp only [Spec.Lens.ok, Guard.ok, Bool.and_eq_left_iff_imp, decide_eq_true_eq]; omega
  | max hi => simp only [Spec.Lens.ok, Guard.ok, Nat.zero_le, decide_true, Bool.true_and]
  | exact k => -- `k ≤ n ∧ n ≤ k ↔ n = k`
    rw [Bool.eq_iff_iff]; simp only [Spec.Lens.ok, Guard.ok, Bool.and_eq_true, decide_eq_true_eq, beq_iff_eq]; omega
  | range lo hi => rfl
  | oneOf l => rfl

theorem decContent_agree (s : Slot) (hs : s.wf = true) (iei : UInt8) (len : Nat) (hg : s.guard.ok len = true)
    (bs1 : Bytes) :
    (Spec.takeN (s.need len) bs1).map (fun (v, r) => (len, v, r)) = bodyView s (decContent s iei len bs1) := by
  rw [decContent_eq, if_pos (Slot.wf_fits hs hg)]
  unfold Spec.takeN
  split
  · rfl
  next h => simp [bodyView, specView, toSVal_content s hs iei len _ (List.length_take_of_le (Nat.le_of_not_lt h))]

/-- where the rows of `Slot.specOK` are used: the octets the codec takes are the octets the format prescribes -/
theorem specOK_need (s : Slot) (hs : s.specOK = true) (len : Nat) (hg : s.guard.ok len = true) :
    s.need len = if s.lenSize = 0 then Spec.fixedSize s.lens else len := by
  obtain ⟨_, hfmt⟩ := (Slot.specOK_iff s).1 hs
  by_cases hl : s.lenSize = 0
  · -- no length field: the whole storage is the content, so `toLen` and a `Buffer` (no size of its own) are excluded
    rw [if_pos hl] at hfmt ⊢
    obtain ⟨_, hsp, hbuf⟩ := hfmt
    have hfix : Spec.fixedSize s.lens = s.fixed := by simp only [Slot.lens, hl, if_true, Spec.fixedSize]
    rw [hfix, Slot.fixed]
    cases hst : s.store with
    | octet => exact Slot.need_octet hst len
    | arr n => exact Slot.need_arr_all hst hsp len
    | buf => exact absurd hst hbuf
    | unit => exact Slot.need_unit hst len
  · -- a length field: the content must be `len` octets, by the guard where the storage has a size of its own
    rw [if_neg hl] at hfmt ⊢
    obtain ⟨hoct, harr, hbuf, hunit⟩ := hfmt
    cases hst : s.store with
    | octet => -- guard `exact 1`
      rw [hoct hst] at hg
      rw [Slot.need_octet hst, eq_of_beq hg]
    | arr n =>
      cases hsp : s.span with
      | all => -- guard `exact n`
        rw [harr n hst hsp] at hg
        rw [Slot.need_arr_all hst hsp, eq_of_beq hg]
      | toLen => exact Slot.need_arr_toLen hst hsp len
    | buf => -- `SetLen` allocates `len` octets
      rw [Slot.need_buf hst, hbuf hst, if_pos rfl]
    | unit => exact absurd hst hunit

theorem afterLen_agree (s : Slot) (hs : s.specOK = true) (hl : s.lenSize ≠ 0) (iei : UInt8) (len : Nat)
    (hlim : len < lenLimit s.lenSize) (bs1 : Bytes) :
    (if s.lens.ok len then (Spec.takeN len bs1).map (fun (v, r) => (len, v, r)) else none) =
      bodyView s (if !s.guard.ok len then .err .badLen else decContent s iei len bs1) := by
  rw [lens_ok_agree s hl len hlim]
  cases hg : s.guard.ok len with
  | false => rfl
  | true =>
    simp only [if_true, Bool.not_true, Bool.false_eq_true, if_false]
    rw [← decContent_agree s (Slot.specOK_wf hs) iei len hg bs1, specOK_need s hs len hg, if_neg hl]

theorem decValue_agree (s : Slot) (hs : s.specOK = true) (iei : UInt8) (bs : Bytes) :
    Spec.decValue s.toIE bs = bodyView s (decBody s iei bs) := by
  unfold Spec.decValue Slot.toIE decBody
  rcases hl : s.lenSize with _ | _ | k
  · have hg : s.guard.ok 0 = true := by
      obtain ⟨_, hfmt⟩ := (Slot.specOK_iff s).1 hs
      rw [if_pos hl] at hfmt
      rw [hfmt.1]; rfl
    simp only [readLen, hg, Bool.not_true, Bool.false_eq_true, if_false]
    rw [← decContent_agree s (Slot.specOK_wf hs) iei 0 hg bs, specOK_need s hs 0 hg, if_pos hl]
  · cases bs with
    | nil => rfl
    | cons l r =>
      have := afterLen_agree s hs (by omega) iei l.toNat (by rw [hl]; simpa [lenLimit] using l.toNat_lt) r
      simpa only [readLen] using this
  · match bs with
    | [] => simp [readLen, bodyView, specView]
    | [_] => simp [readLen, bodyView, specView]
    | h :: l :: r =>
      obtain ⟨hle, _⟩ := (Slot.wf_iff s).1 (Slot.specOK_wf hs)
      obtain rfl : k = 0 := by omega
      have := afterLen_agree s hs (by omega) iei (h.toNat * 256 + l.toNat)
        (by rw [hl]; have := h.toNat_lt; have := l.toNat_lt; simp [lenLimit]; omega) r
      simpa [readLen] using this

theorem decMan_agree (ss : List Slot) (hs : ss.all Slot.specOK = true) (bs : Bytes) :
    Spec.decMan (ss.map Slot.toIE) bs = specView (fun p => (toSVals ss p.1, p.2)) (decMan ss bs) := by
  induction ss generalizing bs with
  | nil => rfl
  | cons s ss ih =>
    simp only [List.all_cons, Bool.and_eq_true] at hs
    rw [decMan_cons, List.map_cons, Spec.decMan, decValue_agree s hs.1 0 bs]
    cases hb : decBody s 0 bs with
    | ok p =>
      have hiei := decBody_iei hb
      simp only [bodyView, specView, Outcome.bind_ok, ih hs.2 p.2]
      cases decMan ss p.2 <;> simp [toSVals, toSVal, hiei]
    | err e => rfl
    | panic => rfl

theorem lookup_map (defs : List OptSlot) (t k : Nat) :
    Spec.lookup (defs.map OptSlot.toIE) t k = (findSlot defs t k).map (fun p => (p.1, p.2.toIE)) := by
  induction defs generalizing k with
  | nil => simp [Spec.lookup, findSlot]
  | cons d ds ih =>
    simp only [List.map_cons, Spec.lookup, findSlot]
    have : d.toIE.iei = d.iei := by simp [OptSlot.toIE]
    rw [this]
    split
    · simp
    · exact ih (k+1)

theorem decValue_opt (d : OptSlot) (hh : ¬ d.half = true) (bs : Bytes) :
    Spec.decValue d.toIE bs = Spec.decValue d.slot.toIE bs := by
  unfold Spec.decValue OptSlot.toIE Slot.toIE
  rcases hl : d.slot.lenSize with _ | _ | k <;> simp [hh]

theorem toSOpts_set {defs : List OptSlot} {i : Nat} {d : OptSlot} (hget : defs[i]? = some d) (acc : Slots) (v : IEVal) :
    toSOpts defs (acc.set i (some v)) = (toSOpts defs acc).set i (some (toSVal d.slot v)) := by
  induction defs generalizing acc i with
  | nil => simp at hget
  | cons d0 ds ih =>
    cases acc with
    | nil => simp [toSOpts]
    | cons a as =>
      cases i with
      | zero => cases Option.some.inj hget; simp [toSOpts]
      | succ i => simp [toSOpts, ih (by simpa using hget) as]

/-- one optional element followed by `cont`: the spec decoder's step is the codec's, with the value read in TS vocabulary -/
theorem decOpt_agree {γ : Type} (d : OptSlot) (hd : d.specOK = true) (b : UInt8) (rest : Bytes)
    (cont : Spec.Val → Bytes → Option γ) :
    (if d.toIE.fmt = .TV1 then cont ⟨0, 0, [b]⟩ rest
      else match Spec.decValue d.toIE rest with
        | none => none
        | some (n, v, r) => cont ⟨b, n, v⟩ r) =
      match decOpt d b rest with
      | .ok (v, r) => cont (toSVal d.slot v) r
      | _ => none := by
  unfold decOpt
  by_cases hh : d.half = true
  · simp [OptSlot.toIE, hh, toSVal, OptSlot.specOK_half hd hh]
  · obtain ⟨hhas, hs⟩ := OptSlot.specOK_full hd hh
    have hfmt : ¬ d.toIE.fmt = .TV1 := by
      simp only [OptSlot.toIE, hh]
      rcases d.slot.lenSize with _ | _ | n <;> simp
    simp only [hfmt, if_false, hh, decValue_opt d hh, hhas, if_true, decValue_agree d.slot hs b rest]
    cases hb : decBody d.slot b rest with
    | ok q =>
      simp [bodyView, specView, toSVal, decBody_iei hb]
    | err e => rfl
    | panic => rfl

theorem decOpts_agree (defs : List OptSlot) (hs : defs.all OptSlot.specOK = true) (fuel : Nat) (bs : Bytes) (acc : Slots) :
    Spec.decOpts (defs.map OptSlot.toIE) fuel bs (toSOpts defs acc) = specView (toSOpts defs) (decLoop defs fuel bs acc) := by
  induction fuel generalizing bs acc with
  | zero => simp [Spec.decOpts, decLoop, specView]
  | succ fuel ih =>
    cases bs with
    | nil => simp [Spec.decOpts, decLoop, specView]
    | cons b rest =>
      rw [decLoop_cons, Spec.decOpts, lookup_map, show Spec.ieiOf b = tmpIei b from rfl]
      cases hf : findSlot defs (tmpIei b) 0 with
      | none => exact ih rest acc
      | some p =>
        obtain ⟨hget, hmem, _⟩ := findSlot_zero hf
        have hd : p.2.specOK = true := List.all_eq_true.mp hs p.2 hmem
        simp only [Option.map_some]
        refine (decOpt_agree p.2 hd b rest fun val r =>
          Spec.decOpts (defs.map OptSlot.toIE) fuel r ((toSOpts defs acc).set p.1 (some val))).trans ?_
        cases decOpt p.2 b rest with
        | ok q =>
          simp only [Outcome.bind_ok]
          rw [← toSOpts_set hget acc]
          exact ih q.2 _
        | err e => rfl
        | panic => rfl

theorem toSOpts_replicate : ∀ (defs : List OptSlot), toSOpts defs (List.replicate defs.length none) = List.replicate defs.length none
  | [] => rfl
  | _ :: ds => by simp [toSOpts, List.replicate_succ, toSOpts_replicate ds]

theorem decode_specView (d : MsgDef) (hd : d.specOK = true) (bs : Bytes) :
    Spec.decode d.toSpec bs = specView (toMVal d) (decode d bs) := by
  obtain ⟨_, hman, hopt⟩ := (MsgDef.specOK_iff d).1 hd
  rw [decode_eq, Spec.decode, MsgDef.toSpec]
  simp only [decMan_agree d.man hman bs, List.length_map]
  cases decMan d.man bs with
  | ok p =>
    have := decOpts_agree d.opt hopt p.2.length p.2 (List.replicate d.opt.length none)
    rw [toSOpts_replicate] at this
    simp only [specView, Outcome.bind_ok, this]
    cases decLoop d.opt p.2.length p.2 (List.replicate d.opt.length none) <;> rfl
  | err e => rfl
  | panic => rfl

/-- C04 (decoder) -/
theorem decode_agree (d : MsgDef) (hd : d.specOK = true) (bs : Bytes) :
    Spec.decode d.toSpec bs = (match decode d bs with | .ok m => some (toMVal d m) | _ => none) := by
  rw [decode_specView d hd bs]; cases decode d bs <;> rfl

theorem decode_rejects (d : MsgDef) (hd : d.specOK = true) (bs : Bytes) (h : Spec.decode d.toSpec bs = none) :
    ∃ e, decode d bs = .err e := by
  obtain ⟨hwf, _⟩ := (MsgDef.specOK_iff d).1 hd
  have hnp := decode_no_panic d hwf bs
  rw [decode_specView d hd bs] at h
  cases hdec : decode d bs with
  | ok m => simp [hdec, specView] at h
  | err e => exact ⟨e, rfl⟩
  | panic => exact absurd hdec hnp

end NasVerif.Codec
